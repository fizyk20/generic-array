import GA.Props.C01
import GA.Props.C02
import GA.Props.C03
import GA.Props.C04
import GA.Props.C05
import GA.Props.C06
import GA.Props.C07
import GA.Props.C08
import GA.Props.C09
import GA.Props.C10
import GA.Props.C11
import GA.Props.C12
import GA.Props.C13
import GA.Props.C14
import GA.Props.C15
import GA.Props.C16
import GA.Props.C17
import GA.Props.C18
import GA.Props.C19
import GA.Props.C20
import GA.Props.Body
import GA.Props.BodyCollect
import GA.Props.BodyBoxed
import GA.Props.BodyZip
import GA.Props.BodySerde
import GA.Props.BodyClone
import GA.Props.BodyCollectBad
import GA.Props.BodySeq
import GA.Props.BodyViewsSlices
import GA.Props.BodyViewsChunks
import GA.Props.BodyViewsRegroup
import GA.Bridge.AllocBodies
import GA.Bridge.HexBodies
import GA.Bridge.Surface.Lib
import GA.Bridge.Surface.Iter
import GA.Bridge.Surface.Internal
import GA.Bridge.Surface.Impls
import GA.Bridge.Surface.Sequence
import GA.Bridge.Surface.Functional
import GA.Bridge.Surface.ImplAlloc
import GA.Bridge.Surface.ImplSerde
import GA.Bridge.Surface.ImplZeroize
import GA.Bridge.Surface.ImplConstDefault
import GA.Bridge.Surface.Hex
import GA.Bridge.Surface.Arr
