import GA.Gen.Surface
/-! The regenerated function inventory of `src/impls.rs` is the one the models and theorems were written against:
    a function added to the file (an overridden trait default, a new method or conversion) is code no model covers and fails it. -/
namespace GA.Bridge.Surface.Impls
open GA.Gen.Surface

def ofFile (f : String) : List (String × List String) := (surface.filter (fun r => r.1 == f)).map (fun r => r.2)

theorem inventory : ofFile "impls.rs" = [
    ("impl DefaultforGenericArray<T,N>", ["default"]),
    ("impl CloneforGenericArray<T,N>", ["clone"]),
    ("impl CopyforGenericArray<T,N>", []),
    ("impl PartialEqforGenericArray<T,N>", ["eq"]),
    ("impl EqforGenericArray<T,N>", []),
    ("impl PartialOrdforGenericArray<T,N>", ["partial_cmp"]),
    ("impl OrdforGenericArray<T,N>", ["cmp"]),
    ("impl DebugforGenericArray<T,N>", ["fmt"]),
    ("impl Borrow<[T]>forGenericArray<T,N>", ["borrow"]),
    ("impl BorrowMut<[T]>forGenericArray<T,N>", ["borrow_mut"]),
    ("impl AsRef<[T]>forGenericArray<T,N>", ["as_ref"]),
    ("impl AsMut<[T]>forGenericArray<T,N>", ["as_mut"]),
    ("impl HashforGenericArray<T,N>", ["hash"]),
    ("impl From<[T;N]>forGenericArray<T,ConstArrayLength<N>>", ["from"]),
    ("impl From<GenericArray<T,ConstArrayLength<N>>>for[T;N]", ["from"]),
    ("impl From<&'a[T;N]>for&'aGenericArray<T,ConstArrayLength<N>>", ["from"]),
    ("impl From<&'amut[T;N]>for&'amutGenericArray<T,ConstArrayLength<N>>", ["from"]),
    ("impl AsRef<[T;N]>forGenericArray<T,ConstArrayLength<N>>", ["as_ref"]),
    ("impl AsMut<[T;N]>forGenericArray<T,ConstArrayLength<N>>", ["as_mut"]),
    ("<free>", ["test_from_inference"])] := by rfl

theorem no_other_files : otherFiles = [] := by rfl

end GA.Bridge.Surface.Impls
