import GA.Gen.Surface
/-! The regenerated function inventory of `src/functional.rs` is the one the models and theorems were written against:
    a function added to the file (an overridden trait default, a new method or conversion) is code no model covers and fails it. -/
namespace GA.Bridge.Surface.Functional
open GA.Gen.Surface

def ofFile (f : String) : List (String × List String) := (surface.filter (fun r => r.1 == f)).map (fun r => r.2)

theorem inventory : ofFile "functional.rs" = [
    ("trait MappedGenericSequence<T,U>", []),
    ("impl MappedGenericSequence<T,U>for&'aS", []),
    ("impl MappedGenericSequence<T,U>for&'amutS", []),
    ("trait FunctionalSequence<T>", ["map", "zip", "fold"]),
    ("impl FunctionalSequence<T>for&'aS", []),
    ("impl FunctionalSequence<T>for&'amutS", [])] := by rfl

theorem no_other_files : otherFiles = [] := by rfl

end GA.Bridge.Surface.Functional
