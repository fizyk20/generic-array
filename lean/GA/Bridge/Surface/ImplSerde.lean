import GA.Gen.Surface
/-! The regenerated function inventory of `src/impl_serde.rs` is the one the models and theorems were written against:
    a function added to the file (an overridden trait default, a new method or conversion) is code no model covers and fails it. -/
namespace GA.Bridge.Surface.ImplSerde
open GA.Gen.Surface

def ofFile (f : String) : List (String × List String) := (surface.filter (fun r => r.1 == f)).map (fun r => r.2)

theorem inventory : ofFile "impl_serde.rs" = [
    ("impl SerializeforGenericArray<T,N>", ["serialize"]),
    ("impl Deserialize<'de>forDummy", ["deserialize"]),
    ("impl Visitor<'de>forGAVisitor<T,N>", ["expecting", "visit_seq"]),
    ("impl Deserialize<'de>forGenericArray<T,N>", ["deserialize"]),
    ("<free>", ["test_serialize", "test_deserialize", "test_serialized_size", "test_too_many"])] := by rfl

theorem no_other_files : otherFiles = [] := by rfl

end GA.Bridge.Surface.ImplSerde
