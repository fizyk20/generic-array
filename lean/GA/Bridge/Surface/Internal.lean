import GA.Gen.Surface
/-! The regenerated function inventory of `src/internal.rs` is the one the models and theorems were written against:
    a function added to the file (an overridden trait default, a new method or conversion) is code no model covers and fails it. -/
namespace GA.Bridge.Surface.Internal
open GA.Gen.Surface

def ofFile (f : String) : List (String × List String) := (surface.filter (fun r => r.1 == f)).map (fun r => r.2)

theorem inventory : ofFile "internal.rs" = [
    ("trait Sealed", []),
    ("impl Sealedfor[T;0]", []),
    ("impl ArrayBuilder<T,N>", ["new", "extend", "is_full", "iter_position", "assume_init"]),
    ("impl DropforArrayBuilder<T,N>", ["drop"]),
    ("impl IntrusiveArrayBuilder<'a,T,N>", ["new", "extend", "is_full", "iter_position", "finish", "array_assume_init"]),
    ("impl DropforIntrusiveArrayBuilder<'_,T,N>", ["drop"]),
    ("impl ArrayConsumer<T,N>", ["new", "iter_position"]),
    ("impl DropforArrayConsumer<T,N>", ["drop"])] := by rfl

theorem no_other_files : otherFiles = [] := by rfl

end GA.Bridge.Surface.Internal
