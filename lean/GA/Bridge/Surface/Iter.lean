import GA.Gen.Surface
/-! The regenerated function inventory of `src/iter.rs` is the one the models and theorems were written against:
    a function added to the file (an overridden trait default, a new method or conversion) is code no model covers and fails it. -/
namespace GA.Bridge.Surface.Iter
open GA.Gen.Surface

def ofFile (f : String) : List (String × List String) := (surface.filter (fun r => r.1 == f)).map (fun r => r.2)

theorem inventory : ofFile "iter.rs" = [
    ("impl GenericArrayIter<T,N>", ["as_slice", "as_mut_slice"]),
    ("impl IntoIteratorforGenericArray<T,N>", ["into_iter"]),
    ("impl fmt::DebugforGenericArrayIter<T,N>", ["fmt"]),
    ("impl DropforGenericArrayIter<T,N>", ["drop"]),
    ("impl CloneforGenericArrayIter<T,N>", ["clone"]),
    ("impl IteratorforGenericArrayIter<T,N>", ["next", "fold", "size_hint", "count", "nth", "last"]),
    ("impl DoubleEndedIteratorforGenericArrayIter<T,N>", ["next_back", "rfold", "nth_back"]),
    ("impl ExactSizeIteratorforGenericArrayIter<T,N>", ["len"]),
    ("impl FusedIteratorforGenericArrayIter<T,N>", []),
    ("<free>", ["send", "test_send_iter"])] := by rfl

theorem no_other_files : otherFiles = [] := by rfl

end GA.Bridge.Surface.Iter
