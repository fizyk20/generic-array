import GA.Gen.Surface
/-! The regenerated function inventory of `src/hex.rs` is the one the models and theorems were written against:
    a function added to the file (an overridden trait default, a new method or conversion) is code no model covers and fails it. -/
namespace GA.Bridge.Surface.Hex
open GA.Gen.Surface

def ofFile (f : String) : List (String × List String) := (surface.filter (fun r => r.1 == f)).map (fun r => r.2)

theorem inventory : ofFile "hex.rs" = [
    ("impl fmt::LowerHexforGenericArray<u8,N>", ["fmt"]),
    ("impl fmt::UpperHexforGenericArray<u8,N>", ["fmt"]),
    ("<free>", ["hex_encode_fallback", "hex_encode", "generic_hex"])] := by rfl

theorem no_other_files : otherFiles = [] := by rfl

end GA.Bridge.Surface.Hex
