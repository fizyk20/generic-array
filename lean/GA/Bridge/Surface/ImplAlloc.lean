import GA.Gen.Surface
/-! The regenerated function inventory of `src/impl_alloc.rs` is the one the models and theorems were written against:
    a function added to the file (an overridden trait default, a new method or conversion) is code no model covers and fails it. -/
namespace GA.Bridge.Surface.ImplAlloc
open GA.Gen.Surface

def ofFile (f : String) : List (String × List String) := (surface.filter (fun r => r.1 == f)).map (fun r => r.2)

theorem inventory : ofFile "impl_alloc.rs" = [
    ("impl TryFrom<Vec<T>>forGenericArray<T,N>", ["try_from"]),
    ("impl GenericArray<T,N>", ["into_boxed_slice", "into_vec", "try_from_boxed_slice", "try_from_vec", "default_boxed", "try_boxed_from_iter"]),
    ("impl TryFrom<Box<[T]>>forGenericArray<T,N>", ["try_from"]),
    ("impl From<GenericArray<T,N>>forBox<[T]>", ["from"]),
    ("impl From<GenericArray<T,N>>forVec<T>", ["from"]),
    ("impl IntoIteratorforBox<GenericArray<T,N>>", ["into_iter"]),
    ("impl FromIterator<T>forBox<GenericArray<T,N>>", ["from_iter"]),
    ("impl DropforDeallocOnDrop", ["drop"]),
    ("impl GenericSequence<T>forBox<GenericArray<T,N>>", ["generate"]),
    ("impl MappedGenericSequence<T,U>forBox<GenericArray<T,N>>", []),
    ("impl FunctionalSequence<T>forBox<GenericArray<T,N>>", [])] := by rfl

theorem no_other_files : otherFiles = [] := by rfl

end GA.Bridge.Surface.ImplAlloc
