import GA.Gen.Surface
/-! The regenerated function inventory of `src/sequence.rs` is the one the models and theorems were written against:
    a function added to the file (an overridden trait default, a new method or conversion) is code no model covers and fails it. -/
namespace GA.Bridge.Surface.Sequence
open GA.Gen.Surface

def ofFile (f : String) : List (String × List String) := (surface.filter (fun r => r.1 == f)).map (fun r => r.2)

theorem inventory : ofFile "sequence.rs" = [
    ("trait GenericSequence<T>", ["generate", "inverted_zip", "inverted_zip2"]),
    ("impl GenericSequence<T>for&'aS", ["generate"]),
    ("impl GenericSequence<T>for&'amutS", ["generate"]),
    ("trait Lengthen<T>", ["append", "prepend"]),
    ("trait Shorten<T>", ["pop_back", "pop_front"]),
    ("impl Lengthen<T>forGenericArray<T,N>", ["append", "prepend"]),
    ("impl Shorten<T>forGenericArray<T,N>", ["pop_back", "pop_front"]),
    ("trait Split<T,K", ["split"]),
    ("impl Split<T,K>forGenericArray<T,N>", ["split"]),
    ("impl Split<T,K>for&'aGenericArray<T,N>", ["split"]),
    ("impl Split<T,K>for&'amutGenericArray<T,N>", ["split"]),
    ("trait Concat<T,M", ["concat"]),
    ("impl Concat<T,M>forGenericArray<T,N>", ["concat"]),
    ("trait Remove<T,N", ["remove", "swap_remove", "remove_unchecked", "swap_remove_unchecked"]),
    ("impl Remove<T,N>forGenericArray<T,N>", ["remove_unchecked", "swap_remove_unchecked"]),
    ("trait Flatten<T,N,M>", ["flatten"]),
    ("trait Unflatten<T,NM,N>", ["unflatten"]),
    ("impl Flatten<T,N,M>forGenericArray<GenericArray<T,N>,M>", ["flatten"]),
    ("impl Flatten<T,N,M>for&'aGenericArray<GenericArray<T,N>,M>", ["flatten"]),
    ("impl Flatten<T,N,M>for&'amutGenericArray<GenericArray<T,N>,M>", ["flatten"]),
    ("impl Unflatten<T,NM,N>forGenericArray<T,NM>", ["unflatten"]),
    ("impl Unflatten<T,NM,N>for&'aGenericArray<T,NM>", ["unflatten"]),
    ("impl Unflatten<T,NM,N>for&'amutGenericArray<T,NM>", ["unflatten"])] := by rfl

theorem no_other_files : otherFiles = [] := by rfl

end GA.Bridge.Surface.Sequence
