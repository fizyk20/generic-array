import GA.Gen.Surface
/-! The regenerated function inventory of `src/lib.rs` is the one the models and theorems were written against:
    a function added to the file (an overridden trait default, a new method or conversion) is code no model covers and fails it. -/
namespace GA.Bridge.Surface.Lib
open GA.Gen.Surface

def ofFile (f : String) : List (String × List String) := (surface.filter (fun r => r.1 == f)).map (fun r => r.2)

theorem inventory : ofFile "lib.rs" = [
    ("trait ArrayLength", []),
    ("impl ArrayLengthforUTerm", []),
    ("trait IntoArrayLength", []),
    ("impl IntoArrayLengthforConst<N>", []),
    ("impl IntoArrayLengthforN", []),
    ("impl CloneforGenericArrayImplEven<T,U>", ["clone"]),
    ("impl CloneforGenericArrayImplOdd<T,U>", ["clone"]),
    ("impl CopyforGenericArrayImplEven<T,U>", []),
    ("impl CopyforGenericArrayImplOdd<T,U>", []),
    ("impl SealedforGenericArrayImplEven<T,U>", []),
    ("impl SealedforGenericArrayImplOdd<T,U>", []),
    ("impl ArrayLengthforUInt<N,B0>", []),
    ("impl ArrayLengthforUInt<N,B1>", []),
    ("impl SendforGenericArray<T,N>", []),
    ("impl SyncforGenericArray<T,N>", []),
    ("impl DerefforGenericArray<T,N>", ["deref"]),
    ("impl DerefMutforGenericArray<T,N>", ["deref_mut"]),
    ("impl IntoIteratorfor&'aGenericArray<T,N>", ["into_iter"]),
    ("impl IntoIteratorfor&'amutGenericArray<T,N>", ["into_iter"]),
    ("impl FromIterator<T>forGenericArray<T,N>", ["from_iter"]),
    ("impl GenericSequence<T>forGenericArray<T,N>", ["generate", "inverted_zip", "inverted_zip2"]),
    ("impl MappedGenericSequence<T,U>forGenericArray<T,N>", []),
    ("impl FunctionalSequence<T>forGenericArray<T,N>", ["map", "zip", "fold"]),
    ("impl GenericArray<T,N>", ["len", "as_slice", "as_mut_slice", "from_slice", "try_from_slice", "from_mut_slice", "try_from_mut_slice", "chunks_from_slice", "chunks_from_slice_mut", "slice_from_chunks", "slice_from_chunks_mut", "from_array", "into_array", "from_chunks", "from_chunks_mut", "into_chunks", "into_chunks_mut"]),
    ("impl GenericArray<T,N>", ["uninit", "assume_init"]),
    ("impl core::fmt::DisplayforLengthError", ["fmt"]),
    ("impl TryFrom<&'a[T]>for&'aGenericArray<T,N>", ["try_from"]),
    ("impl TryFrom<&'amut[T]>for&'amutGenericArray<T,N>", ["try_from"]),
    ("impl GenericArray<T,N>", ["try_from_iter"]),
    ("<free>", ["from_iter_length_fail", "black_box", "test_assembly"])] := by rfl

theorem no_other_files : otherFiles = [] := by rfl

end GA.Bridge.Surface.Lib
