import GA.Model.Types
import GA.Lemmas.Tac
import GA.Lemmas.Attr
namespace GA.Bridge.Types
open GA.Gen.Types GA.Types
@[ga_bridge] theorem lengthenAccepts_eq (n : Nat) : lengthenAccepts n = true := by bridge_bool [lengthenAccepts]
@[ga_bridge] theorem lengthenLonger_eq (n : Nat) : lengthenLonger n = n + 1 := by bridge_nat [lengthenLonger]
@[ga_bridge] theorem shortenAccepts_eq (n : Nat) : shortenAccepts n = decide (1 ≤ n) := by bridge_bool [shortenAccepts]
@[ga_bridge] theorem shortenShorter_eq (n : Nat) : shortenShorter n = n - 1 := by bridge_nat [shortenShorter]
@[ga_bridge] theorem removeAccepts_eq (n : Nat) : removeAccepts n = decide (1 ≤ n) := by bridge_bool [removeAccepts]
@[ga_bridge] theorem removeOutput_eq (n : Nat) : removeOutput n = n - 1 := by bridge_nat [removeOutput]
@[ga_bridge] theorem splitAccepts_eq (n k : Nat) : splitAccepts n k = decide (k ≤ n) := by bridge_bool [splitAccepts]
@[ga_bridge] theorem splitFirst_eq (n k : Nat) : splitFirst n k = k := by bridge_nat [splitFirst]
@[ga_bridge] theorem splitSecond_eq (n k : Nat) : splitSecond n k = n - k := by bridge_nat [splitSecond]
@[ga_bridge] theorem splitRefAccepts_eq (n k : Nat) : splitRefAccepts n k = decide (k ≤ n) := by bridge_bool [splitRefAccepts]
@[ga_bridge] theorem splitRefFirst_eq (n k : Nat) : splitRefFirst n k = k := by bridge_nat [splitRefFirst]
@[ga_bridge] theorem splitRefSecond_eq (n k : Nat) : splitRefSecond n k = n - k := by bridge_nat [splitRefSecond]
@[ga_bridge] theorem splitMutAccepts_eq (n k : Nat) : splitMutAccepts n k = decide (k ≤ n) := by bridge_bool [splitMutAccepts]
@[ga_bridge] theorem splitMutFirst_eq (n k : Nat) : splitMutFirst n k = k := by bridge_nat [splitMutFirst]
@[ga_bridge] theorem splitMutSecond_eq (n k : Nat) : splitMutSecond n k = n - k := by bridge_nat [splitMutSecond]
@[ga_bridge] theorem concatAccepts_eq (n m : Nat) : concatAccepts n m = true := by bridge_bool [concatAccepts]
@[ga_bridge] theorem concatOutput_eq (n m : Nat) : concatOutput n m = n + m := by bridge_nat [concatOutput]
@[ga_bridge] theorem concatRest_eq (n m : Nat) : concatRest n m = m := by bridge_nat [concatRest]
@[ga_bridge] theorem flattenAccepts_eq (n m : Nat) : flattenAccepts n m = true := by bridge_bool [flattenAccepts]
@[ga_bridge] theorem flattenOutput_eq (n m : Nat) : flattenOutput n m = n * m := by bridge_nat [flattenOutput]
@[ga_bridge] theorem unflattenAccepts_eq (nm n : Nat) : unflattenAccepts nm n = decide (0 < n) := by bridge_bool [unflattenAccepts]
@[ga_bridge] theorem unflattenOutput_eq (nm n : Nat) : unflattenOutput nm n = nm / n := by bridge_nat [unflattenOutput]
@[ga_bridge] theorem zipLenTied_eq : zipLenTied = true := by bridge_bool [zipLenTied]
@[ga_bridge] theorem invertedZipLenTied_eq : invertedZipLenTied = true := by bridge_bool [invertedZipLenTied]
@[ga_bridge] theorem cmpSameTypeOnly_eq : cmpSameTypeOnly = true := by bridge_bool [cmpSameTypeOnly]
@[ga_bridge] theorem fromArrayConstTied_eq : fromArrayConstTied = true := by bridge_bool [fromArrayConstTied]
@[ga_bridge] theorem intoArrayConstTied_eq : intoArrayConstTied = true := by bridge_bool [intoArrayConstTied]
@[ga_bridge] theorem fromChunksConstTied_eq : fromChunksConstTied = true := by bridge_bool [fromChunksConstTied]
@[ga_bridge] theorem fromChunksMutConstTied_eq : fromChunksMutConstTied = true := by bridge_bool [fromChunksMutConstTied]
@[ga_bridge] theorem intoChunksConstTied_eq : intoChunksConstTied = true := by bridge_bool [intoChunksConstTied]
@[ga_bridge] theorem intoChunksMutConstTied_eq : intoChunksMutConstTied = true := by bridge_bool [intoChunksMutConstTied]
@[ga_bridge] theorem nativeArrayImplsTied_eq : nativeArrayImplsTied = true := by bridge_bool [nativeArrayImplsTied]
/-- the tuple table maps `k` fields to length `k`, for `k` in `1..=12` and nothing else -/
theorem tupleTable_eq : tupleTable = (List.range 12).map (fun i => (i + 1, i + 1)) := by decide
theorem tupleTable_spec (n k : Nat) : tupleTable.contains (n, k) = true ↔ (k = n ∧ 1 ≤ k ∧ k ≤ 12) := by
  rw [tupleTable_eq, List.contains_iff_mem, List.mem_map]
  constructor
  · rintro ⟨i, hi, h⟩
    cases h
    exact ⟨rfl, Nat.succ_pos i, List.mem_range.mp hi⟩
  · rintro ⟨rfl, h2, h3⟩
    exact ⟨k - 1, List.mem_range.mpr (by omega), by rw [Nat.sub_add_cancel h2]⟩
theorem autoImpls_eq : autoImpls = [("Send", "GenericArray", ["Send"]), ("Sync", "GenericArray", ["Sync"])] := by rfl
@[ga_bridge] theorem autoTraitsStructural_eq : autoTraitsStructural = true := by bridge_bool [autoTraitsStructural]
theorem arrayCloneBounds_eq : arrayCloneBounds = ["Clone"] := by rfl
theorem arrayCopyBounds_eq : arrayCopyBounds = ["Copy"] := by rfl
theorem iterCloneBounds_eq : iterCloneBounds = ["Clone"] := by rfl
@[ga_bridge] theorem iterIsCopy_eq : iterIsCopy = false := by bridge_bool [iterIsCopy]
theorem find?_map_pair {α β : Type} [BEq α] [LawfulBEq α] (b : β) (l : List α) {a : α} (h : a ∈ l) :
    (l.map (·, b)).find? (·.1 == a) = some (a, b) := by
  induction l with
  | nil => cases h
  | cons x l ih =>
    rw [List.map_cons, List.find?_cons]
    by_cases hx : x = a
    · rw [hx, beq_self_eq_true]
    · rw [beq_false_of_ne hx]
      exact ih ((List.mem_cons.mp h).resolve_left (Ne.symm hx))

theorem lifetimes_all : ∀ a ∈ apis, lifetimesTied.find? (·.1 == a) = some (a, true) := by
  -- the regenerated table answers `true` in every row, in the order of `apis`
  have h : lifetimesTied = apis.map (·, true) := rfl
  intro a ha
  rw [h]
  exact find?_map_pair true apis ha
end GA.Bridge.Types
