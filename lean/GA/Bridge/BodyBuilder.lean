import GA.Bridge.BodyExec
/-!
What the bodies that fill an `IntrusiveArrayBuilder` share: the builder's storage while it is being
filled (`bO`), what one round of a fill loop does to it (`Pushes`), and the closure-driven fill loops
(`map`, `clone`, `zip`) in closed form (`zipMapLoop_calls`).  Nothing here mentions a generated body:
the loop lemmas take the per-round functions as variables with what a round does as a hypothesis,
which each bridge file discharges for its regenerated body by evaluating one round.  At the end, what the files on top share under
their namespace: the builder-filling state `bst`, the reading `resOf` of a result value, `ledger_of_run`.
-/
namespace GA.Bridge.BodyBuilder
open GA.Body GA.Own GA.Bridge.Body

/-- the builder's storage: `outL` written, `rem` slots still uninitialised -/
def bO (outL : List Nat) (rem : Nat) : O :=
  ⟨outL ++ List.replicate rem 0, 0, 0, outL.length, List.range' outL.length rem⟩

/-! These keep a builder's storage in the form `bO _ _` under `simp [body_exec]`. -/

@[body_exec] theorem bO_nil (n : Nat) : (⟨List.replicate n 0, 0, 0, 0, List.range' 0 n⟩ : O) = bO [] n := by
  simp [bO]
theorem bO_full (out : List Nat) : bO out 0 = ⟨out, 0, 0, out.length, []⟩ := by simp [bO]
-- not `rfl`: `simp` would then use it definitionally, and a side condition it discharged that way is not accepted
@[body_exec] theorem bO_position (outL : List Nat) (rem : Nat) : (bO outL rem).position = outL.length := by rw [bO]
@[body_exec] theorem bO_length (outL : List Nat) (rem : Nat) : (bO outL rem).slots.length = outL.length + rem := by
  simp [bO]
theorem bO_within (outL : List Nat) (rem : Nat) : (bO outL rem).position ≤ (bO outL rem).slots.length := by
  simp [bO]
@[body_exec] theorem sliceOf_bO (outL : List Nat) (rem : Nat) : GA.Iter.sliceOf (bO outL rem).slots 0 outL.length = outL := by
  simp [GA.Iter.sliceOf, bO]

@[body_exec] theorem dropEvs_bO (outL : List Nat) (rem : Nat) : dropEvs (bO outL rem) 0 outL.length = outL.map .drop := by
  unfold dropEvs
  rw [idsOf_eq, sliceOf_bO]
  cases rem with
  | zero => simp [bO]
  | succ r =>
    simp only [bO, List.range'_succ, List.isEmpty_cons, Bool.false_eq_true, if_false, Nat.sub_zero]
    apply List.ext_getElem
    · simp
    · intro i h1 h2
      simp only [List.length_map, List.length_range'] at h1
      have hnot : ¬ (outL.length ≤ i ∧ i < outL.length + (r + 1)) := by omega
      simp [hnot, ← List.range'_succ]
      rw [List.getElem?_append_left h1, List.getElem?_eq_getElem h1]
      rfl

theorem repl_set0 (rem x : Nat) : (List.replicate (rem + 1) 0).set 0 x = x :: List.replicate rem 0 := by
  simp [List.replicate_succ]

theorem erase_fresh (j rem : Nat) : (List.range' j (rem + 1)).erase j = List.range' (j + 1) rem := by
  rw [List.range'_succ]
  simp

/-- `dst.write(v); *position += 1` — what the body of every fill loop does with the next slot -/
def Pushes (body : V → V → St → List Ev × R × St) : Prop :=
  ∀ (y : Nat) (outL : List Nat) (rem : Nat) (s : O) (ho : Bool) (k : Nat) (f : Bool) (p : Nat) (o : Bool) (e : StExt),
    outL.length + 1 < word →
    body (.slot .out outL.length) (.elem y) ⟨s, bO outL (rem + 1), ho, k, f, p, o, e⟩
      = ([], .ret .unit, ⟨s, bO (outL ++ [y]) rem, ho, k, f, p, o, e⟩)

/-- the calls `f(j), f(j+1), …`, one per item, each preceded by the events `pre j a` of handing item
    `a` to the closure: events, whether all returned, the results so far -/
def closureSpec {α : Type} (pre : Nat → α → List Ev) (f : Nat → Option Nat) :
    List α → Nat → List Nat → List Ev × Bool × List Nat
  | [], _, out => ([], true, out)
  | a :: rest, j, out =>
    match f j with
    | some y =>
      let r := closureSpec pre f rest (j + 1) (out ++ [y])
      (pre j a ++ .take j y :: r.1, r.2)
    | none => (pre j a ++ [.panic j], false, out)

theorem closureSpec_len {α : Type} (pre : Nat → α → List Ev) (f : Nat → Option Nat) :
    ∀ (xs : List α) (j : Nat) (out : List Nat),
      out.length ≤ (closureSpec pre f xs j out).2.2.length ∧
      ((closureSpec pre f xs j out).2.1 = true → (closureSpec pre f xs j out).2.2.length = out.length + xs.length) ∧
      ((closureSpec pre f xs j out).2.1 = false → (closureSpec pre f xs j out).2.2.length < out.length + xs.length)
  | [], j, out => by simp [closureSpec]
  | x :: rest, j, out => by
    cases hf : f j with
    | none => simp [closureSpec, hf]
    | some y =>
      obtain ⟨a, b, c⟩ := closureSpec_len pre f rest (j + 1) (out ++ [y])
      simp only [List.length_append, List.length_singleton] at a b c
      simp only [closureSpec, hf, List.length_cons]
      exact ⟨by omega, fun h => by have := b h; omega, fun h => by have := c h; omega⟩

/-- **The ownership model's fill loop over a closure-driven source in closed form**: `sj j` is the
    source's state when `j` items have been taken, `hstep` what one `next()` does there.  When a call
    panics, `r.2.2.length - out.length` calls have returned since `j` and the panicking one has taken
    its item too: the source is torn down in state `sj (j + that + 1)`, after the builder.  `mapSrc`
    on an `ArrayConsumer` or a `slice::Iter` and `zipSrc` are instances. -/
theorem own_calls_eq {σ α : Type} (S : Src σ) (sj : Nat → σ) (pre : Nat → α → List Ev) (f : Nat → Option Nat)
    (items : List α)
    (hstep : ∀ (j : Nat) (h : j < items.length), S.step (sj j) = match f j with
      | some y => .yield (pre j items[j] ++ [.take j y]) y (sj (j + 1))
      | none => .panic (pre j items[j] ++ [.panic j]) (sj (j + 1))) :
    ∀ (rem j : Nat) (out : List Nat), j + rem ≤ items.length →
      Own.fillLoop true true S rem (sj j) out =
        let r := closureSpec pre f ((items.drop j).take rem) j out
        if r.2.1 then (r.1, FillRes.full r.2.2 (sj (j + rem)))
        else (r.1 ++ r.2.2.map .drop ++ S.dropEv (sj (j + (r.2.2.length - out.length) + 1)), FillRes.panicked) := by
  intro rem
  induction rem with
  | zero => intro j out _; simp [Own.fillLoop, closureSpec]
  | succ rem ih =>
    intro j out h
    have hj : j < items.length := by omega
    rw [List.drop_eq_getElem_cons hj, List.take_succ_cons, Own.fillLoop, hstep j hj, closureSpec]
    cases f j with
    | none => simp [builderDrop]
    | some y =>
      have l1 := (closureSpec_len pre f ((items.drop (j + 1)).take rem) (j + 1) (out ++ [y])).1
      rw [List.length_append, List.length_singleton] at l1
      simp only [ih (j + 1) (out ++ [y]) (by omega), show j + 1 + rem = j + (rem + 1) by omega, List.length_append,
        List.length_singleton,
        show j + 1 + ((closureSpec pre f ((items.drop (j + 1)).take rem) (j + 1) (out ++ [y])).2.2.length - (out.length + 1)) + 1
          = j + ((closureSpec pre f ((items.drop (j + 1)).take rem) (j + 1) (out ++ [y])).2.2.length - out.length) + 1 by omega]
      split <;> simp

/-- What a closure-driven fill loop `destination.zip(a_iter.zip(b_iter).map(clo)).for_each(body)` is
    made of.  `Z outL rem e` is the machine state with `outL` written, `rem` slots to go and `e`
    closure calls that did not return; `round` says what one run of the closure does between two
    such states, `pushes` that the loop body writes its result. -/
structure ClosureLoop {α : Type} (c : Ctx) (a b : Obj) (clo body : V → V → St → List Ev × R × St)
    (pre : Nat → α → List Ev) (items : List α) (Z : List Nat → Nat → Nat → St) : Prop where
  out : ∀ o r e, (Z o r e).out = bO o r
  polls : ∀ o r e, (Z o r e).polls = o.length + e
  len : ∀ o r e, min ((Z o r e).obj a).slots.length ((Z o r e).obj b).slots.length = items.length
  pushes : Pushes body
  round : ∀ (o : List Nat) (r : Nat) (h : o.length < items.length),
    clo (.slot a o.length) (.slot b o.length) { Z o (r + 1) 0 with polls := o.length + 1 } =
      match c.cl o.length with
      | some y => (pre o.length items[o.length] ++ [.take o.length y], .ret (.elem y),
          { Z (o ++ [y]) r 0 with out := bO o (r + 1) })
      | none => (pre o.length items[o.length] ++ [.panic o.length], .panicked, Z o (r + 1) 1)

/-- **The closure-driven fill loops in closed form**: `map`, `clone` and both branches of `zip` are
    instances. -/
theorem zipMapLoop_calls {α : Type} {c : Ctx} {a b : Obj} {clo body : V → V → St → List Ev × R × St}
    {pre : Nat → α → List Ev} {items : List α} {Z : List Nat → Nat → Nat → St} (h : ClosureLoop c a b clo body pre items Z)
    (hw : items.length < word) :
    ∀ (rem : Nat) (outL : List Nat), outL.length + rem ≤ items.length →
      zipMapLoop a b clo body ((List.range' outL.length rem).map (V.slot .out)) (Z outL rem 0) =
        let r := closureSpec pre c.cl ((items.drop outL.length).take rem) outL.length outL
        (r.1, (if r.2.1 then R.ret .unit else R.panicked),
          Z r.2.2 (outL.length + rem - r.2.2.length) (if r.2.1 then 0 else 1)) := by
  intro rem
  induction rem with
  | zero => intro outL _; simp [zipMapLoop, closureSpec]
  | succ rem ih =>
    intro outL hle
    have hj : outL.length < items.length := by omega
    rw [List.range'_succ, List.map_cons, List.drop_eq_getElem_cons hj, List.take_succ_cons, zipMapLoop, h.polls,
      Nat.add_zero, h.len, if_pos hj, h.round outL rem hj]
    cases hf : c.cl outL.length with
    | none => simp [closureSpec, hf]
    | some y =>
      have := ih (outL ++ [y]) (by simp; omega)
      simp only [List.length_append, List.length_singleton] at this
      -- writing the result turns the state the closure left into `Z (outL ++ [y]) rem 0` (structure eta)
      have e : (⟨(Z (outL ++ [y]) rem 0).self, bO (outL ++ [y]) rem, (Z (outL ++ [y]) rem 0).hasOut,
          (Z (outL ++ [y]) rem 0).calls, (Z (outL ++ [y]) rem 0).forgot, (Z (outL ++ [y]) rem 0).polls,
          (Z (outL ++ [y]) rem 0).outForgot, (Z (outL ++ [y]) rem 0).ext⟩ : St) = Z (outL ++ [y]) rem 0 := by
        rw [← h.out (outL ++ [y]) rem 0]
      simp only [h.pushes y outL rem _ _ _ _ _ _ _ (show outL.length + 1 < word by omega), e, closureSpec, hf, this,
        show outL.length + 1 + rem = outL.length + (rem + 1) by omega]
      simp

theorem mapLoop_eq_zip (src : Obj) (clo : V → St → List Ev × R × St) (body : V → V → St → List Ev × R × St) :
    ∀ (ds : List V) (st : St), mapLoop src clo body ds st = zipMapLoop src src (fun p _ => clo p) body ds st
  | [], _ => rfl
  | d :: ds, st => by simp only [mapLoop, zipMapLoop, Nat.min_self, mapLoop_eq_zip src clo body ds]

theorem mapLoop_calls {α : Type} {c : Ctx} {src : Obj} {clo : V → St → List Ev × R × St} {body : V → V → St → List Ev × R × St}
    {pre : Nat → α → List Ev} {items : List α} {Z : List Nat → Nat → Nat → St}
    (h : ClosureLoop c src src (fun p _ => clo p) body pre items Z) (hw : items.length < word) (rem : Nat) (outL : List Nat)
    (hle : outL.length + rem ≤ items.length) :
    mapLoop src clo body ((List.range' outL.length rem).map (V.slot .out)) (Z outL rem 0) =
      let r := closureSpec pre c.cl ((items.drop outL.length).take rem) outL.length outL
      (r.1, (if r.2.1 then R.ret .unit else R.panicked),
        Z r.2.2 (outL.length + rem - r.2.2.length) (if r.2.1 then 0 else 1)) :=
  (mapLoop_eq_zip ..).trans (zipMapLoop_calls h hw rem outL hle)

end GA.Bridge.BodyBuilder

namespace GA.Bridge.BodyCollect
open GA.Body GA.Own GA.Bridge.BodyBuilder

/-- machine state while the builder is being filled: `outL` written, `rem` slots to go -/
def bst (selfO : O) (outL : List Nat) (rem calls : Nat) (fg : Bool) (polls : Nat) : St :=
  ⟨selfO, ⟨outL ++ List.replicate rem 0, 0, 0, outL.length, List.range' outL.length rem⟩, true, calls, fg, polls, false, {}⟩

theorem bst_eq (selfO : O) (outL : List Nat) (rem calls : Nat) (fg : Bool) (pl : Nat) :
    bst selfO outL rem calls fg pl = ⟨selfO, bO outL rem, true, calls, fg, pl, false, {}⟩ := rfl

def resOf : R → Option Res
  | .ret (.ok (.arr l)) => some (.ok l)
  | .ret (.arr l) => some (.ok l)
  | .ret .err => some .err
  | .panicked => some .panicked
  | _ => none

theorem ledger_of_run {r : List Ev × R × St} {m : List Ev × Res} {inputs : List Id}
    (h : (r.1, resOf r.2.1) = (m.1, some m.2))
    (hm : (gives m.1 ++ drops m.1 ++ m.2.ids).Perm (inputs ++ takes m.1) ∧ uninitDrops m.1 = 0) :
    ∃ res, resOf r.2.1 = some res ∧ (gives r.1 ++ drops r.1 ++ res.ids).Perm (inputs ++ takes r.1) ∧ uninitDrops r.1 = 0 := by
  obtain ⟨h1, h2⟩ := Prod.mk.inj h
  exact ⟨_, h2, h1 ▸ hm⟩

end GA.Bridge.BodyCollect
