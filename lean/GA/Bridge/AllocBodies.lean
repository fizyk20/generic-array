import GA.Gen.AllocBodies
/-!
Every function of `src/impl_alloc.rs` except boxed `generate` (translated whole, `GA.Gen.Body`) is a short sequence of
`Vec` / `Box` calls that `GA.Model.Heap` describes by hand.  The regenerated bodies are, token for token, the ones that
model was written against; any edit of them breaks this.
-/
namespace GA.Bridge.AllocBodies
open GA.Gen.AllocBodies

theorem bodies_are_the_modelled_ones : bodies = [
  ("impl TryFrom<Vec<T>>forGenericArray<T,N>::try_from", "ifv.len()!=N::USIZE{returnErr(crate::LengthError);}unsafe{letmutdestination=GenericArray::uninit();letmutbuilder=IntrusiveArrayBuilder::new(&mutdestination);builder.extend(v.into_iter());Ok({builder.finish();IntrusiveArrayBuilder::array_assume_init(destination)})}"),
  ("impl GenericArray<T,N>::into_boxed_slice", "unsafe{Box::from_raw(core::ptr::slice_from_raw_parts_mut(Box::into_raw(self)as*mutT,N::USIZE,))}"),
  ("impl GenericArray<T,N>::into_vec", "Vec::from(self.into_boxed_slice())"),
  ("impl GenericArray<T,N>::try_from_boxed_slice", "ifslice.len()!=N::USIZE{returnErr(LengthError);}Ok(unsafe{Box::from_raw(Box::into_raw(slice)as*mut_)})"),
  ("impl GenericArray<T,N>::try_from_vec", "Self::try_from_boxed_slice(vec.into_boxed_slice())"),
  ("impl GenericArray<T,N>::default_boxed", "Box::<GenericArray<T,N>>::generate(|_|T::default())"),
  ("impl GenericArray<T,N>::try_boxed_from_iter", "letmutiter=iter.into_iter();matchiter.size_hint(){(n,_)ifn>N::USIZE=>returnErr(LengthError),(_,Some(n))ifn<N::USIZE=>returnErr(LengthError),_=>{}}letmutv=Vec::with_capacity(N::USIZE);v.extend((&mutiter).take(N::USIZE));ifv.len()!=N::USIZE||iter.next().is_some(){returnErr(LengthError);}Ok(GenericArray::try_from_vec(v).unwrap())"),
  ("impl TryFrom<Box<[T]>>forGenericArray<T,N>::try_from", "Vec::from(value).try_into()"),
  ("impl From<GenericArray<T,N>>forBox<[T]>::from", "Box::new(value).into_boxed_slice()"),
  ("impl From<GenericArray<T,N>>forVec<T>::from", "Box::<[T]>::from(value).into()"),
  ("impl IntoIteratorforBox<GenericArray<T,N>>::into_iter", "GenericArray::into_vec(self).into_iter()"),
  ("impl FromIterator<T>forBox<GenericArray<T,N>>::from_iter", "matchGenericArray::try_boxed_from_iter(iter){Ok(res)=>res,Err(_)=>crate::from_iter_length_fail(N::USIZE),}"),
  ("impl DropforDeallocOnDrop::drop", "ifself.layout.size()!=0{unsafe{alloc::alloc::dealloc(self.ptr,self.layout)}}")] := by rfl

end GA.Bridge.AllocBodies
