import GA.Bridge.BodyBuilder
import GA.Lemmas.Ops
/-!
Refinement obligations for the whole bodies of `GenericArray::try_from_iter` and
`FromIterator::from_iter` (src/lib.rs) with `IntrusiveArrayBuilder::{new, extend, is_full, finish}`
(src/internal.rs) inlined from their current source: interpreting the regenerated AST over a
scripted caller iterator gives exactly `GA.Own.tryFromIter` / `GA.Own.fromIter` — the model the C07
theorems (and the collect parts of C03/C04) are about.
-/
namespace GA.Bridge.BodyCollect
open GA.Body GA.Own GA.Bridge.Body GA.Bridge.BodyBuilder

/-- the j-th `next()` still to come of a scripted iterator -/
def pollOf (s : Script) (j : Nat) : Poll :=
  if s.panicAt = some (s.k + j) then .panic
  else match s.answers[j]? with
    | some (some x) => .yield x
    | _ => .done

def advance (s : Script) : Script := { s with k := s.k + 1, answers := s.answers.tail }

theorem pollOf_advance (s : Script) (j : Nat) : pollOf (advance s) j = pollOf s (j + 1) := by
  unfold pollOf advance
  have e : s.k + 1 + j = s.k + (j + 1) := by omega
  simp only [e]
  cases s.answers with
  | nil => simp
  | cons a t => simp

theorem src_advance (c : Ctx) (s : Script) (h : ∀ j, c.src (s.k + j) = pollOf s j) (j : Nat) :
    c.src ((advance s).k + j) = pollOf (advance s) j := by
  rw [pollOf_advance, ← h (j + 1)]
  congr 1
  simp [advance]
  omega

theorem step_of_pollOf (s : Script) :
    scriptSrc.step s = (match pollOf s 0 with
      | .yield x => Step.yield [.poll s.k, .take s.k x] x (advance s)
      | .done => Step.done [.poll s.k] (advance s)
      | .panic => Step.panic [.poll s.k, .panic s.k] (advance s)) := by
  by_cases hp : s.panicAt = some s.k
  · simp [scriptSrc, pollOf, hp, advance]
  · cases ha : s.answers with
    | nil => simp [scriptSrc, pollOf, hp, advance, ha]
    | cons a t => cases a <;> simp [scriptSrc, pollOf, hp, advance, ha]

/-- the fill loop over a scripted iterator: events, how it ended (0 = every slot written,
    1 = the source ended first, 2 = the source panicked), what was written, the script afterwards -/
def fillSpec : Nat → Script → List Nat → List Ev × Nat × List Nat × Script
  | 0, s, out => ([], 0, out, s)
  | rem + 1, s, out =>
    match pollOf s 0 with
    | .yield x =>
      let r := fillSpec rem (advance s) (out ++ [x])
      (.poll s.k :: .take s.k x :: r.1, r.2)
    | .done => ([.poll s.k], 1, out, advance s)
    | .panic => ([.poll s.k, .panic s.k], 2, out, advance s)

theorem own_fillLoop_eq : ∀ (rem : Nat) (s : Script) (out : List Nat),
    Own.fillLoop true true scriptSrc rem s out =
      (match (fillSpec rem s out).2.1 with
       | 0 => ((fillSpec rem s out).1, FillRes.full (fillSpec rem s out).2.2.1 (fillSpec rem s out).2.2.2)
       | 1 => ((fillSpec rem s out).1, FillRes.short (fillSpec rem s out).2.2.1 (fillSpec rem s out).2.2.2)
       | _ => ((fillSpec rem s out).1 ++ (fillSpec rem s out).2.2.1.map .drop, FillRes.panicked))
  | 0, s, out => by simp [Own.fillLoop, fillSpec]
  | rem + 1, s, out => by
    rw [Own.fillLoop, step_of_pollOf, fillSpec]
    cases pollOf s 0 with
    | done => rfl
    | panic => simp [builderDrop, scriptSrc]
    | yield x =>
      simp only [own_fillLoop_eq rem (advance s) (out ++ [x])]
      generalize fillSpec rem (advance s) (out ++ [x]) = q
      obtain ⟨tr, tag, o, s'⟩ := q
      rcases tag with _ | _ | tag <;> simp

theorem set_fresh (outL : List Nat) (rem x : Nat) :
    (outL ++ List.replicate (rem + 1) 0).set outL.length x = (outL ++ [x]) ++ List.replicate rem 0 := by
  rw [List.set_append_right _ _ (Nat.le_refl _)]
  simp [List.replicate_succ]

/-- **A loop that polls the caller's source once per destination slot and writes what it yields**:
    `extend` in `try_from_iter`, and serde's `for dst in .. { next_element()? }`, where the source's
    failure is `Err` instead of a panic (`onPanic`).  `loop` is given by its two equations. -/
theorem pollLoop_fill (c : Ctx) (loop : (V → V → St → List Ev × R × St) → List V → St → List Ev × R × St) (onPanic : R)
    (hnil : ∀ body st, loop body [] st = ([], .ret .unit, st))
    (hcons : ∀ body d ds st, loop body (d :: ds) st =
      match c.src st.polls with
      | .yield x =>
        match body d (.elem x) { st with polls := st.polls + 1 } with
        | (tr, .ret _, st') => (.poll st.polls :: .take st.polls x :: tr ++ (loop body ds st').1, (loop body ds st').2)
        | (tr, r, st') => (.poll st.polls :: .take st.polls x :: tr, r, st')
      | .done => ([.poll st.polls], .ret .unit, { st with polls := st.polls + 1 })
      | .panic => ([.poll st.polls, .panic st.polls], onPanic, { st with polls := st.polls + 1 }))
    (body : V → V → St → List Ev × R × St) (hpush : Pushes body) (selfO : O) (calls : Nat) (fg : Bool) :
    ∀ (rem : Nat) (s : Script) (outL : List Nat), (∀ j, c.src (s.k + j) = pollOf s j) → outL.length + rem < word →
      loop body ((List.range' outL.length rem).map (V.slot .out)) (bst selfO outL rem calls fg s.k)
        = ((fillSpec rem s outL).1, (if (fillSpec rem s outL).2.1 = 2 then onPanic else R.ret .unit),
            bst selfO (fillSpec rem s outL).2.2.1 (outL.length + rem - (fillSpec rem s outL).2.2.1.length) calls fg
              (fillSpec rem s outL).2.2.2.k) := by
  intro rem
  induction rem with
  | zero => intro s outL _ _; simp [hnil, fillSpec, bst]
  | succ rem ih =>
    intro s outL hsrc hw
    have h0 : c.src s.k = pollOf s 0 := by simpa using hsrc 0
    rw [List.range'_succ, List.map_cons, hcons]
    cases hq : pollOf s 0 with
    | done => simp [bst, h0, hq, fillSpec, advance]
    | panic => simp [bst, h0, hq, fillSpec, advance]
    | yield x =>
      have := ih (advance s) (outL ++ [x]) (src_advance c s hsrc) (by simp; omega)
      simp only [List.length_append, List.length_singleton, bst_eq] at this
      simp only [bst_eq, h0, hq, fillSpec, hpush x outL rem _ _ _ _ _ _ _ (show outL.length + 1 < word by omega),
        show s.k + 1 = (advance s).k from rfl, this, show outL.length + 1 + rem = outL.length + (rem + 1) by omega]
      simp

theorem tryFromIter_pushes (c : Ctx) : Pushes (fillBody c (loopBodyOf Gen.Body.tryFromIter.body) []) := by
  intro y outL rem s ho k f p o e hw
  simp [fillBody, loopBodyOf, Gen.Body.tryFromIter, body_exec, St.obj, St.putObj, bO, hw, repl_set0, erase_fresh]

theorem fill_loop_body (c : Ctx) (selfO : O) (calls : Nat) (fg : Bool) :
    ∀ (rem : Nat) (s : Script) (outL : List Nat), (∀ j, c.src (s.k + j) = pollOf s j) → outL.length + rem < word →
      Body.fillLoop c true (fillBody c (loopBodyOf Gen.Body.tryFromIter.body) [])
          ((List.range' outL.length rem).map (V.slot .out)) (bst selfO outL rem calls fg s.k)
        = ((fillSpec rem s outL).1, (if (fillSpec rem s outL).2.1 = 2 then R.panicked else R.ret .unit),
            bst selfO (fillSpec rem s outL).2.2.1 (outL.length + rem - (fillSpec rem s outL).2.2.1.length) calls fg
              (fillSpec rem s outL).2.2.2.k) :=
  pollLoop_fill c (Body.fillLoop c true) .panicked (fun _ _ => rfl) (fun _ _ _ _ => rfl) _ (tryFromIter_pushes c) selfO calls fg

theorem fillSpec_len : ∀ (rem : Nat) (s : Script) (out : List Nat),
    ((fillSpec rem s out).2.1 = 0 → (fillSpec rem s out).2.2.1.length = out.length + rem) ∧
    ((fillSpec rem s out).2.1 ≠ 0 → (fillSpec rem s out).2.2.1.length < out.length + rem) ∧
    (fillSpec rem s out).2.1 ≤ 2
  | 0, s, out => by simp [fillSpec]
  | rem + 1, s, out => by
    cases hq : pollOf s 0 with
    | done => simp [fillSpec, hq]
    | panic => simp [fillSpec, hq]
    | yield x =>
      obtain ⟨a, b, c⟩ := fillSpec_len rem (advance s) (out ++ [x])
      simp only [List.length_append, List.length_singleton] at a b
      simp only [fillSpec, hq]
      exact ⟨fun h => by have := a h; omega, fun h => by have := b h; omega, c⟩

theorem fillSpec_src (c : Ctx) : ∀ (rem : Nat) (s : Script) (out : List Nat),
    (∀ j, c.src (s.k + j) = pollOf s j) →
    ∀ j, c.src ((fillSpec rem s out).2.2.2.k + j) = pollOf (fillSpec rem s out).2.2.2 j
  | 0, s, out, h => by simpa [fillSpec] using h
  | rem + 1, s, out, h => by
    cases hq : pollOf s 0 with
    | done => simpa [fillSpec, hq] using src_advance c s h
    | panic => simpa [fillSpec, hq] using src_advance c s h
    | yield x => simpa [fillSpec, hq] using fillSpec_src c rem (advance s) (out ++ [x]) (src_advance c s h)

theorem drops_fillSpec : ∀ (rem : Nat) (s : Script) (out : List Nat), drops (fillSpec rem s out).1 = []
  | 0, s, out => by simp [fillSpec]
  | rem + 1, s, out => by
    cases hq : pollOf s 0 with
    | done => simp [fillSpec, hq, drops]
    | panic => simp [fillSpec, hq, drops]
    | yield x => simpa [fillSpec, hq, drops] using drops_fillSpec rem (advance s) (out ++ [x])

/-- the part of `try_from_iter` after the two `size_hint` pre-checks -/
def coreOf : S → S
  | .ite _ _ (.ite _ _ k) => k
  | _ => .opaque 0

theorem tryFromIter_checks (c : Ctx) (st : St) :
    exec c Gen.Body.tryFromIter.body [] st =
      if hintReject canonFrags c.hint c.n then ([], .ret .err, st) else exec c (coreOf Gen.Body.tryFromIter.body) [] st := by
  by_cases h1 : c.n < c.hint.1
  · simp [Gen.Body.tryFromIter, exec_ite, exec_done, eval, natOf, boolOf, hintReject, canonFrags, h1]
  · cases hh : c.hint.2 with
    | none => simp [Gen.Body.tryFromIter, coreOf, exec_ite, eval, natOf, boolOf, hintReject, canonFrags, h1, hh]
    | some h =>
      by_cases h2 : h < c.n <;>
        simp [Gen.Body.tryFromIter, coreOf, exec_ite, exec_done, eval, natOf, boolOf, hintReject, canonFrags, h1, hh, h2]

theorem panics_cons (x : Nat) (l : List Nat) (bad : Option Nat) :
    GA.IterOwn.panics (x :: l) bad = (GA.IterOwn.panics [x] bad || GA.IterOwn.panics l bad) := by
  cases bad <;> simp [GA.IterOwn.panics]

def badRes (bad : Option Nat) (r : List Ev × Res) : Res :=
  if GA.IterOwn.panics (drops r.1) bad then .panicked else r.2

/-- the second conjunct (the builder left behind is within its array) is what `from_iter`'s teardown of it needs -/
theorem collect_core_bad (c : Ctx) (hn : c.n < word) (sc : Script)
    (hsrc : ∀ j, c.src (sc.k + j) = pollOf sc j) (selfO : O)
    (hrej : hintReject canonFrags c.hint c.n = false) :
    let r := runFn c Gen.Body.intrusiveDrop.body ⟨.ref, coreOf Gen.Body.tryFromIter.body⟩ []
      ⟨selfO, ⟨[], 0, 0, 0, []⟩, false, 0, false, sc.k, false, {}⟩
    (r.1, resOf r.2.1) = ((Own.tryFromIter canonFrags scriptSrc c.n c.hint sc).1,
      some (badRes c.bad (Own.tryFromIter canonFrags scriptSrc c.n c.hint sc))) ∧
    r.2.2.out.position ≤ r.2.2.out.slots.length := by
  have hl := fill_loop_body c selfO 0 false c.n sc [] hsrc (by simpa using hn)
  have hlen := fillSpec_len c.n sc []
  have hs0 := fillSpec_src c c.n sc [] hsrc 0
  have hdr := drops_fillSpec c.n sc []
  rw [tryFromIter_canon, hrej]
  simp only [badRes, Bool.false_eq_true, if_false, own_fillLoop_eq, step_of_pollOf]
  generalize fillSpec c.n sc [] = q at hl hlen hs0 hdr
  obtain ⟨tr, tag, out, s'⟩ := q
  simp only [loopBodyOf, Gen.Body.tryFromIter, List.length_nil, Nat.zero_add, Nat.add_zero, bst_eq] at hl hlen hs0 hdr
  obtain ⟨hfull, hshort, htag⟩ := hlen
  rcases he : exec c (coreOf Gen.Body.tryFromIter.body) [] ⟨selfO, ⟨[], 0, 0, 0, []⟩, false, 0, false, sc.k, false, {}⟩
    with ⟨tr', r', st''⟩
  have hrun := runFn_builder he
  simp only [coreOf, Gen.Body.tryFromIter, exec_newBuilder, List.range_eq_range', bO_nil, exec_fillS, bO_length,
    List.length_nil, Nat.zero_add, positions, Nat.sub_zero, hl] at he
  rcases tag with _ | _ | tag
  · -- every slot written: the surplus probe
    have hlen : out.length = c.n := hfull rfl
    cases hp : pollOf s' 0 with
    | yield x =>
      cases hx : GA.IterOwn.panics [x] c.bad
      all_goals
        simp [body_exec, St.obj, ← hlen, hs0, hp, hx] at he
        obtain ⟨rfl, rfl, rfl⟩ := he
        rw [hrun (bO_within _ _) (by simp)]
        cases ho : GA.IterOwn.panics out c.bad <;>
          simp [body_exec, resOf, scriptSrc, hdr, drops, panics_cons x out, hp, hx, ho]
    | done =>
      simp [body_exec, St.obj, ← hlen, hs0, hp] at he
      obtain ⟨rfl, rfl, rfl⟩ := he
      rw [hrun (bO_within _ _) (by simp)]
      simp [body_exec, resOf, scriptSrc, hdr, drops, hp, bO_full, GA.IterOwn.panics]
      cases c.bad <;> rfl
    | panic =>
      simp [body_exec, St.obj, ← hlen, hs0, hp] at he
      obtain ⟨rfl, rfl, rfl⟩ := he
      rw [hrun (bO_within _ _) (by simp)]
      cases ho : GA.IterOwn.panics out c.bad <;> simp [body_exec, resOf, scriptSrc, hdr, drops, hp, ho]
  · -- the source ended first
    have hne : ¬ out.length = c.n := by have := hshort (by omega); omega
    simp [body_exec, St.obj, hne] at he
    obtain ⟨rfl, rfl, rfl⟩ := he
    rw [hrun (bO_within _ _) (by simp)]
    cases ho : GA.IterOwn.panics out c.bad <;> simp [body_exec, resOf, scriptSrc, hdr, ho]
  · -- the source panicked
    have ht : tag + 1 + 1 = 2 := Nat.le_antisymm htag (by omega)
    simp [body_exec, ht] at he
    obtain ⟨rfl, rfl, rfl⟩ := he
    rw [hrun (bO_within _ _) (by simp)]
    cases ho : GA.IterOwn.panics out c.bad <;> simp [body_exec, resOf, hdr, ho]

/-- **`try_from_iter`, whole body, with a panicking destructor.**  For every length, size hint,
    scripted caller iterator and *every* choice of the element whose destructor panics (or none):
    the events of interpreting the regenerated body are exactly those of the ownership model's
    `tryFromIter` — the teardown of the intermediates is the same sequence, every destructor runs —
    and the call panics exactly when that element is among the ones the library dropped. -/
theorem tryFromIter_body_bad (n : Nat) (hn : n < word) (hint : Nat × Option Nat) (sc : Script) (c : Ctx)
    (hcn : c.n = n) (hch : c.hint = hint) (hsrc : ∀ j, c.src (sc.k + j) = pollOf sc j) (selfO : O) :
    let r := runFn c Gen.Body.intrusiveDrop.body Gen.Body.tryFromIter []
      ⟨selfO, ⟨[], 0, 0, 0, []⟩, false, 0, false, sc.k, false, {}⟩
    (r.1, resOf r.2.1) = ((Own.tryFromIter canonFrags scriptSrc n hint sc).1,
      some (badRes c.bad (Own.tryFromIter canonFrags scriptSrc n hint sc))) ∧
    r.2.2.out.position ≤ r.2.2.out.slots.length := by
  subst hcn hch
  have hr : Gen.Body.tryFromIter.recv = .ref := rfl
  by_cases hrej : hintReject canonFrags c.hint c.n = true
  · simp [runFn, tryFromIter_checks, hrej, hr, resOf, tryFromIter_canon, badRes, scriptSrc]
    cases c.bad <;> rfl
  · rw [runFn_congr (f := Gen.Body.tryFromIter) (g := ⟨.ref, coreOf Gen.Body.tryFromIter.body⟩) rfl
      (by rw [tryFromIter_checks, if_neg hrej])]
    exact collect_core_bad c hn sc hsrc selfO (by simpa using hrej)

/-- **`try_from_iter`, whole body.**  For every length, size hint and scripted caller iterator
    (any answers, fused or not, a panic at any poll), interpreting the regenerated body — with
    `IntrusiveArrayBuilder::new`, `extend`, `is_full` and `finish` inlined from their own current
    source — produces exactly the events and the result of the ownership model's `tryFromIter`. -/
theorem tryFromIter_body (n : Nat) (hn : n < word) (hint : Nat × Option Nat) (sc : Script) (c : Ctx)
    (hcn : c.n = n) (hch : c.hint = hint) (hsrc : ∀ j, c.src (sc.k + j) = pollOf sc j) (hb : c.bad = none) (selfO : O) :
    let r := runFn c Gen.Body.intrusiveDrop.body Gen.Body.tryFromIter []
      ⟨selfO, ⟨[], 0, 0, 0, []⟩, false, 0, false, sc.k, false, {}⟩
    (r.1, resOf r.2.1) = ((Own.tryFromIter canonFrags scriptSrc n hint sc).1,
      some (Own.tryFromIter canonFrags scriptSrc n hint sc).2) := by
  simpa [badRes, hb, GA.IterOwn.panics] using (tryFromIter_body_bad n hn hint sc c hcn hch hsrc selfO).1

/-- what inlining `match try_from_iter(iter) { Ok(res) => res, Err(_) => from_iter_length_fail(N) }`
    does to the callee's body: every `return Err(..)` becomes "drop the callee's locals, then panic",
    every `Ok(x)` result becomes `x` -/
def failOnErr : S → S
  | .done x => (match x with
    | .err => .endOut .lenFail
    | .ok y => .done y
    | x => .done x)
  | .letv e k => .letv e (failOnErr k)
  | .set o f e k => .set o f e (failOnErr k)
  | .drop sl k => .drop sl (failOnErr k)
  | .ite c t e => .ite c (failOnErr t) (failOnErr e)
  | .forget k => .forget (failOnErr k)
  | .foldS r sl b k => .foldS r sl b (failOnErr k)
  | .zipS d s b k => .zipS d s b (failOnErr k)
  | .callF a k => .callF a (failOnErr k)
  | .cloneOf s k => .cloneOf s (failOnErr k)
  | .write d v k => .write d v (failOnErr k)
  | .newOut m i b k => .newOut m i b (failOnErr k)
  | .newBuilder k => .newBuilder (failOnErr k)
  | .fillS df b k => .fillS df b (failOnErr k)
  | .pollS k => .pollS (failOnErr k)
  | .forgetO o k => .forgetO o (failOnErr k)
  | .lenFail => .lenFail
  | .forSlots b k => .forSlots b (failOnErr k)
  | .callG a k => .callG a (failOnErr k)
  | .callM a k => .callM a (failOnErr k)
  | .fillMapS l o cl b k => .fillMapS l o cl b (failOnErr k)
  | .pollMapS l o cl k => .pollMapS l o cl (failOnErr k)
  | .callM2 a b k => .callM2 a b (failOnErr k)
  | .seqFill b k => .seqFill b (failOnErr k)
  | .probeS k => .probeS (failOnErr k)
  | .fillZipMapS l a b cl bd k => .fillZipMapS l a b cl bd (failOnErr k)
  | .pollZipMapS l a b cl k => .pollZipMapS l a b cl (failOnErr k)
  | .allocS k => .allocS (failOnErr k)
  | .abortAlloc => .abortAlloc
  | .guardNew p k => .guardNew p (failOnErr k)
  | .guardForget k => .guardForget (failOnErr k)
  | .builderAt p k => .builderAt p (failOnErr k)
  | .deallocS p k => .deallocS p (failOnErr k)
  | .endOut k => .endOut (failOnErr k)
  | .opaque n => .opaque n

/-- every result of the body is syntactically `Err(..)` or `Ok(..)` -/
def resultLeaves : S → Bool
  | .done x => (match x with | .err => true | .ok _ => true | _ => false)
  | .letv _ k => resultLeaves k
  | .set _ _ _ k => resultLeaves k
  | .drop _ k => resultLeaves k
  | .ite _ t e => resultLeaves t && resultLeaves e
  | .forget k => resultLeaves k
  | .foldS _ _ _ k => resultLeaves k
  | .zipS _ _ _ k => resultLeaves k
  | .callF _ k => resultLeaves k
  | .cloneOf _ k => resultLeaves k
  | .write _ _ k => resultLeaves k
  | .newOut _ _ _ k => resultLeaves k
  | .newBuilder k => resultLeaves k
  | .fillS _ _ k => resultLeaves k
  | .pollS k => resultLeaves k
  | .forgetO _ k => resultLeaves k
  | .lenFail => true
  | .forSlots _ k => resultLeaves k
  | .callG _ k => resultLeaves k
  | .callM _ k => resultLeaves k
  | .fillMapS _ _ _ _ k => resultLeaves k
  | .pollMapS _ _ _ k => resultLeaves k
  | .callM2 _ _ k => resultLeaves k
  | .seqFill _ _ => false
  | .probeS _ => false
  | .fillZipMapS _ _ _ _ _ k => resultLeaves k
  | .pollZipMapS _ _ _ _ k => resultLeaves k
  | .allocS k => resultLeaves k
  | .abortAlloc => true
  | .guardNew _ k => resultLeaves k
  | .guardForget k => resultLeaves k
  | .builderAt _ k => resultLeaves k
  | .deallocS _ k => resultLeaves k
  | .endOut k => resultLeaves k
  | .opaque _ => true

/-- the caller's view of the callee's outcome -/
def postR (r : List Ev × R × St) : List Ev × R × St :=
  match r.2.1 with
  | .ret .err =>
    if r.2.2.hasOut && !r.2.2.outForgot then
      (r.1 ++ dropEvs r.2.2.out 0 r.2.2.out.position ++ [.lenFail], .panicked, { r.2.2 with outForgot := true })
    else (r.1 ++ [.lenFail], .panicked, r.2.2)
  | .ret (.ok v) => (r.1, .ret v, r.2.2)
  | _ => r

theorem postR_prefix (a tr : List Ev) (x : R × St) :
    postR (a ++ tr, x) = (a ++ (postR (tr, x)).1, (postR (tr, x)).2) := by
  obtain ⟨res, st⟩ := x
  unfold postR
  simp only
  split
  · split <;> simp
  · simp
  · simp

theorem postR_cons (a : Ev) (tr : List Ev) (x : R × St) :
    postR (a :: tr, x) = (a :: (postR (tr, x)).1, (postR (tr, x)).2) := postR_prefix [a] tr x

theorem postR_ub (tr : List Ev) (st : St) : postR (tr, .ub, st) = (tr, .ub, st) := rfl
theorem postR_panicked (tr : List Ev) (st : St) : postR (tr, .panicked, st) = (tr, .panicked, st) := rfl

/-- `postR` passes through "a loop, then the rest of the block" -/
theorem postR_then (L : List Ev × R × St) (F G : St → List Ev × R × St) (h : ∀ st', F st' = postR (G st')) :
    (match L with
      | (tr, .ret _, st') => (tr ++ (F st').1, (F st').2)
      | r => r) =
    postR (match L with
      | (tr, .ret _, st') => (tr ++ (G st').1, (G st').2)
      | r => r) := by
  obtain ⟨tr, res, st'⟩ := L
  cases res with
  | ret v => simp only [h, postR_prefix]
  | panicked => rfl
  | ub => rfl

/-- … and through "poll a mapped source, drop the item, then the rest" -/
theorem postR_poll (L : List Ev × R × St) (F G : St → List Ev × R × St) (h : ∀ st', F st' = postR (G st')) :
    (match L with
      | (tr, .ret (.elem y), st') => (tr ++ .drop y :: (F st').1, (F st').2)
      | (tr, .ret _, st') => (tr, .ub, st')
      | r => r) =
    postR (match L with
      | (tr, .ret (.elem y), st') => (tr ++ .drop y :: (G st').1, (G st').2)
      | (tr, .ret _, st') => (tr, .ub, st')
      | r => r) := by
  obtain ⟨tr, res, st'⟩ := L
  cases res with
  | ret v => cases v <;> first | rfl | simp only [h, postR_prefix, postR_cons]
  | panicked => rfl
  | ub => rfl

theorem exec_failOnErr (c : Ctx) (hb : c.bad = none) : ∀ (s : S) (env : List V) (st : St), resultLeaves s = true →
    exec c (failOnErr s) env st = postR (exec c s env st) := by
  intro s
  induction s with
  | done x =>
    intro env st h
    simp only [resultLeaves] at h
    split at h
    · simp [failOnErr, body_exec, postR, hb, GA.IterOwn.panics]
    · simp only [failOnErr, exec_done, eval]
      cases eval c env st _ <;> simp [postR]
    · cases h
  | ite _ _ _ iht ihe =>
    intro env st h
    simp only [resultLeaves, Bool.and_eq_true] at h
    unfold failOnErr exec
    split
    · exact iht _ _ h.1
    · exact ihe _ _ h.2
    · rfl
  | letv _ _ ih | set _ _ _ _ ih | write _ _ _ ih | newOut _ _ _ _ ih | allocS _ ih | guardNew _ _ ih | builderAt _ _ ih
  | deallocS _ _ ih =>
    intro env st h
    unfold failOnErr exec
    split <;> first | exact ih _ _ h | rfl
  | forget _ ih | newBuilder _ ih | guardForget _ ih => intro env st h; exact ih _ _ h
  | forgetO o _ ih => intro env st h; cases o <;> exact ih _ _ h
  | callF _ _ ih | cloneOf _ _ ih | callG _ _ ih | callM _ _ ih | callM2 _ _ _ ih =>
    intro env st h
    unfold failOnErr exec
    split
    · split <;> first | rfl | simp only [ih _ _ h, postR_cons]
    · rfl
  | drop _ _ ih =>
    intro env st h
    unfold failOnErr
    -- `exec` names the ids with a `let` here, which `split` would not see through; `exec_drop` has it inlined
    rw [exec_drop, exec_drop]
    split
    · split
      · rfl
      · simp only [ih _ _ h, postR_prefix]
    · rfl
  | foldS _ _ _ _ _ ih | zipS _ _ _ _ _ ih =>
    intro env st h
    unfold failOnErr exec
    split
    · exact postR_then _ _ _ fun _ => ih _ _ h
    · rfl
  | fillS _ _ _ _ ih | forSlots _ _ _ ih | fillMapS _ _ _ _ _ _ _ ih | fillZipMapS _ _ _ _ _ _ _ _ ih =>
    intro env st h
    unfold failOnErr exec
    exact postR_then _ _ _ fun _ => ih _ _ h
  | pollMapS _ _ _ _ _ ih | pollZipMapS _ _ _ _ _ _ ih =>
    intro env st h
    unfold failOnErr exec
    split
    · exact postR_poll _ _ _ fun _ => ih _ _ h
    · exact ih _ _ h
  | pollS _ ih =>
    intro env st h
    unfold failOnErr exec
    simp only [hb, GA.Body.panics, Bool.false_eq_true, if_false]
    split
    · simp only [ih _ _ h, postR_cons]
    · simp only [ih _ _ h, postR_cons]
    · rfl
  | endOut _ ih =>
    intro env st h
    unfold failOnErr exec
    simp only [hb, GA.Body.panics, Bool.false_eq_true, if_false]
    split
    · simp only [ih _ _ h, postR_prefix]
    · exact ih _ _ h
  | seqFill _ _ _ _ | probeS _ _ => intro env st h; cases h
  | lenFail | abortAlloc | «opaque» _ => intro env st _; rfl

/-- the inlined `try_from_iter` inside `from_iter` is, statement for statement, the body of
    `try_from_iter` with every `Err` result turned into "drop the callee's locals, then panic" -/
theorem fromIter_is_failOnErr : Gen.Body.fromIter.body = failOnErr Gen.Body.tryFromIter.body := by rfl
theorem tryFromIter_leaves : resultLeaves Gen.Body.tryFromIter.body = true := by rfl

theorem resOf_inv {r : R} {res : Res} (h : resOf r = some res) :
    match res with
    | .err => r = .ret .err
    | .panicked => r = .panicked
    | .ok l => r = .ret (.ok (.arr l)) ∨ r = .ret (.arr l) := by
  unfold resOf at h
  split at h <;> cases h <;> simp

/-- An `Err` result becomes the length panic after the builder's teardown, which `runFn` would have run
    anyway: `failOnErr s` computes `postR` of what `s` computes (`exec_failOnErr`), and `runFn` appends
    the teardown to either (`runFn_ref`). -/
theorem runFn_failOnErr (c : Ctx) (hb : c.bad = none) (s : S) (hs : resultLeaves s = true) (args : List V) (st : St)
    (tr : List Ev) (res : Res)
    (ht : let t := runFn c Gen.Body.intrusiveDrop.body ⟨.ref, s⟩ args st
      (t.1, resOf t.2.1) = (tr, some res) ∧ t.2.2.out.position ≤ t.2.2.out.slots.length) :
    let r := runFn c Gen.Body.intrusiveDrop.body ⟨.ref, failOnErr s⟩ args st
    (r.1, resOf r.2.1) = (if res = .err then (tr ++ [.lenFail], some .panicked) else (tr, some res)) := by
  obtain ⟨ht, hwf⟩ := ht
  rcases he : exec c s args st with ⟨tr0, r0, st'⟩
  have he' := exec_failOnErr c hb s args st hs
  rw [he] at he'
  have hst : st'.out.position ≤ st'.out.slots.length := by
    simp only [runFn, he] at hwf
    cases r0 <;> exact hwf
  have hub : r0 ≠ .ub := by
    rintro rfl
    simp [runFn, he, resOf] at ht
  rw [runFn_ref c hb s args st tr0 r0 st' he hst hub] at ht
  obtain ⟨rfl, ht2⟩ := Prod.mk.inj ht
  have hr := resOf_inv ht2
  cases res with
  | err =>
    -- `postR` runs the teardown (if there is a builder to tear down) and panics; nothing is left for `runFn`
    subst hr
    by_cases hc : st'.hasOut = true ∧ st'.outForgot = false
    · rw [runFn_ref c hb _ args st _ _ _ (he'.trans (if_pos (by simpa using hc))) hst (by simp)]
      simp [resOf, hc]
    · rw [runFn_ref c hb _ args st _ _ _ (he'.trans (if_neg (by simpa using hc))) hst (by simp)]
      simp [resOf, hc]
  | panicked =>
    subst hr
    rw [runFn_ref c hb _ args st _ _ _ he' hst hub]
    exact ht
  | ok l =>
    rcases hr with rfl | rfl
    · -- `postR` strips the `Ok`
      rw [runFn_ref c hb _ args st _ _ _ he' hst (by simp)]
      simp [resOf]
    · rw [runFn_ref c hb _ args st _ _ _ he' hst hub]
      exact ht

/-- **`from_iter`, whole body** (with `try_from_iter` inlined from its current source): for every
    length, size hint and scripted caller iterator, interpreting the regenerated body produces
    exactly the events and the result of the ownership model's `fromIter`.  It follows from
    `tryFromIter_body_bad`: the body is `failOnErr` of that one. -/
theorem fromIter_body (n : Nat) (hn : n < word) (hint : Nat × Option Nat) (sc : Script) (c : Ctx)
    (hcn : c.n = n) (hch : c.hint = hint) (hsrc : ∀ j, c.src (sc.k + j) = pollOf sc j) (hb : c.bad = none) (selfO : O) :
    let r := runFn c Gen.Body.intrusiveDrop.body Gen.Body.fromIter []
      ⟨selfO, ⟨[], 0, 0, 0, []⟩, false, 0, false, sc.k, false, {}⟩
    (r.1, resOf r.2.1) = ((Own.fromIter canonFrags scriptSrc n hint sc).1,
      some (Own.fromIter canonFrags scriptSrc n hint sc).2) := by
  rw [runFn_congr (f := Gen.Body.fromIter) (g := ⟨.ref, failOnErr Gen.Body.tryFromIter.body⟩) rfl
    (by rw [fromIter_is_failOnErr])]
  refine (runFn_failOnErr c hb _ tryFromIter_leaves [] _ _ _ (tryFromIter_body_bad n hn hint sc c hcn hch hsrc selfO)).trans ?_
  simp only [badRes, hb, GA.IterOwn.panics, Bool.false_eq_true, if_false, Own.fromIter]
  rcases Own.tryFromIter canonFrags scriptSrc n hint sc with ⟨tr, r⟩
  cases r <;> rfl

end GA.Bridge.BodyCollect
