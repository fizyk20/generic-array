import GA.Gen.Impls
import GA.Lemmas.Tac
import GA.Lemmas.Attr
namespace GA.Bridge.Impls
open GA.Gen.Impls
/-! obligations: each regenerated impl body of `src/impls.rs` is the plain delegation to the slice -/
@[ga_bridge] theorem eqBody_eq {σ : Type} (sEq : σ → σ → Bool) (same : Bool) (a b : σ) :
    eqBody sEq same a b = sEq a b := by rfl
@[ga_bridge] theorem partialCmpBody_eq {σ : Type} (sP : σ → σ → Option Ordering) (same : Bool) (a b : σ) :
    partialCmpBody sP same a b = sP a b := by rfl
@[ga_bridge] theorem cmpBody_eq {σ : Type} (sC : σ → σ → Ordering) (same : Bool) (a b : σ) :
    cmpBody sC same a b = sC a b := by rfl
@[ga_bridge] theorem hashBody_eq {σ τ : Type} (sHash sHashSlice : σ → τ) (a : σ) :
    hashBody sHash sHashSlice a = sHash a := by rfl
@[ga_bridge] theorem debugBody_eq {σ φ : Type} (sDbg : φ → σ → String) (dflt fl : φ) (a : σ) :
    debugBody sDbg dflt fl a = sDbg fl a := by rfl
@[ga_bridge] theorem eqRequiresElemEq_eq : eqRequiresElemEq = true := by bridge_bool [eqRequiresElemEq]
end GA.Bridge.Impls
