import GA.Gen.Mem
import GA.Lemmas.Tac
import GA.Lemmas.Attr
/-! Bridge obligations for the reinterpreting views of src/lib.rs, impls.rs and sequence.rs. -/
namespace GA.Bridge.Mem
open GA.Gen.Mem

/-- both views of `chunks_from_slice(_mut)` are made from pointers derived from the argument slice itself -/
@[ga_bridge] theorem chunksRootsAreSlice_eq : chunksRootsAreSlice = true := by bridge_bool [chunksRootsAreSlice]
@[ga_bridge] theorem chunksMutRootsAreSlice_eq : chunksMutRootsAreSlice = true := by bridge_bool [chunksMutRootsAreSlice]
@[ga_bridge] theorem chunksN0_eq (n : Nat) : chunksN0 n = decide (n = 0) := by bridge_bool [chunksN0]
@[ga_bridge] theorem chunksN0Empty_eq (len : Nat) : chunksN0Empty len = decide (len = 0) := by bridge_bool [chunksN0Empty]
@[ga_bridge] theorem chunksChunkOff_eq (len n : Nat) : chunksChunkOff len n = 0 := by bridge_nat [chunksChunkOff]
@[ga_bridge] theorem chunksNumChunks_eq (len n : Nat) : chunksNumChunks len n = len / n := by bridge_nat [chunksNumChunks]
@[ga_bridge] theorem chunksRemOff_eq (len n : Nat) : chunksRemOff len n = len / n * n := by bridge_nat [chunksRemOff]
@[ga_bridge] theorem chunksRemLen_eq (len n : Nat) : chunksRemLen len n = len - len / n * n := by bridge_nat [chunksRemLen]
/-- the guards of the extracted arithmetic only ask for a divisor: `len / n * n ≤ len` always holds -/
@[ga_bridge] theorem chunksOk_eq (len n : Nat) :
    (chunksNumChunksOk len n && chunksRemOffOk len n && chunksRemLenOk len n) = decide (0 < n) := by
  simp only [chunksNumChunksOk, chunksRemOffOk, chunksRemLenOk, Nat.div_mul_le_self, decide_true, Bool.and_true, Bool.and_self]
@[ga_bridge] theorem chunksMutN0_eq (n : Nat) : chunksMutN0 n = decide (n = 0) := by bridge_bool [chunksMutN0]
@[ga_bridge] theorem chunksMutN0Empty_eq (len : Nat) : chunksMutN0Empty len = decide (len = 0) := by bridge_bool [chunksMutN0Empty]
@[ga_bridge] theorem chunksMutChunkOff_eq (len n : Nat) : chunksMutChunkOff len n = 0 := by bridge_nat [chunksMutChunkOff]
@[ga_bridge] theorem chunksMutNumChunks_eq (len n : Nat) : chunksMutNumChunks len n = len / n := by bridge_nat [chunksMutNumChunks]
@[ga_bridge] theorem chunksMutRemOff_eq (len n : Nat) : chunksMutRemOff len n = len / n * n := by bridge_nat [chunksMutRemOff]
@[ga_bridge] theorem chunksMutRemLen_eq (len n : Nat) : chunksMutRemLen len n = len - len / n * n := by bridge_nat [chunksMutRemLen]
@[ga_bridge] theorem chunksMutOk_eq (len n : Nat) :
    (chunksMutNumChunksOk len n && chunksMutRemOffOk len n && chunksMutRemLenOk len n) = decide (0 < n) := by
  simp only [chunksMutNumChunksOk, chunksMutRemOffOk, chunksMutRemLenOk, Nat.div_mul_le_self, decide_true, Bool.and_true,
    Bool.and_self]
@[ga_bridge] theorem flatOff_eq (k n : Nat) : flatOff k n = 0 := by bridge_nat [flatOff]
@[ga_bridge] theorem flatLen_eq (k n : Nat) : flatLen k n = k * n := by bridge_nat [flatLen]
@[ga_bridge] theorem flatMutOff_eq (k n : Nat) : flatMutOff k n = 0 := by bridge_nat [flatMutOff]
@[ga_bridge] theorem flatMutLen_eq (k n : Nat) : flatMutLen k n = k * n := by bridge_nat [flatMutLen]
@[ga_bridge] theorem flattenOutLen_eq (n m : Nat) : flattenOutLen n m = n * m := by bridge_nat [flattenOutLen]
@[ga_bridge] theorem flattenRefOutLen_eq (n m : Nat) : flattenRefOutLen n m = n * m := by bridge_nat [flattenRefOutLen]
@[ga_bridge] theorem flattenMutOutLen_eq (n m : Nat) : flattenMutOutLen n m = n * m := by bridge_nat [flattenMutOutLen]
@[ga_bridge] theorem unflattenOutLen_eq (nm n : Nat) : unflattenOutLen nm n = nm / n := by bridge_nat [unflattenOutLen]
@[ga_bridge] theorem unflattenRefOutLen_eq (nm n : Nat) : unflattenRefOutLen nm n = nm / n := by bridge_nat [unflattenRefOutLen]
@[ga_bridge] theorem unflattenMutOutLen_eq (nm n : Nat) : unflattenMutOutLen nm n = nm / n := by bridge_nat [unflattenMutOutLen]
@[ga_bridge] theorem fromSliceReject_eq (len n : Nat) : fromSliceReject len n = decide (len ≠ n) := by bridge_bool [fromSliceReject]
@[ga_bridge] theorem tryFromSliceReject_eq (len n : Nat) : tryFromSliceReject len n = decide (len ≠ n) := by bridge_bool [tryFromSliceReject]
@[ga_bridge] theorem fromMutSliceAccept_eq (len n : Nat) : fromMutSliceAccept len n = decide (len = n) := by bridge_bool [fromMutSliceAccept]
@[ga_bridge] theorem tryFromMutSliceAccept_eq (len n : Nat) : tryFromMutSliceAccept len n = decide (len = n) := by bridge_bool [tryFromMutSliceAccept]
@[ga_bridge] theorem transmuteReject_eq (a b : Nat) : transmuteReject a b = decide (a ≠ b) := by bridge_bool [transmuteReject]
@[ga_bridge] theorem fromSliceOff_eq : fromSliceOff = 0 := by bridge_nat [fromSliceOff]
@[ga_bridge] theorem tryFromSliceOff_eq : tryFromSliceOff = 0 := by bridge_nat [tryFromSliceOff]
@[ga_bridge] theorem fromMutSliceOff_eq : fromMutSliceOff = 0 := by bridge_nat [fromMutSliceOff]
@[ga_bridge] theorem fromArrayRefOff_eq : fromArrayRefOff = 0 := by bridge_nat [fromArrayRefOff]
@[ga_bridge] theorem fromArrayMutOff_eq : fromArrayMutOff = 0 := by bridge_nat [fromArrayMutOff]
@[ga_bridge] theorem fromChunksIsTransmute_eq : fromChunksIsTransmute = true := by bridge_bool [fromChunksIsTransmute]
@[ga_bridge] theorem fromChunksLenTied_eq : fromChunksLenTied = true := by bridge_bool [fromChunksLenTied]
@[ga_bridge] theorem fromChunksMutIsTransmute_eq : fromChunksMutIsTransmute = true := by bridge_bool [fromChunksMutIsTransmute]
@[ga_bridge] theorem fromChunksMutLenTied_eq : fromChunksMutLenTied = true := by bridge_bool [fromChunksMutLenTied]
@[ga_bridge] theorem intoChunksIsTransmute_eq : intoChunksIsTransmute = true := by bridge_bool [intoChunksIsTransmute]
@[ga_bridge] theorem intoChunksLenTied_eq : intoChunksLenTied = true := by bridge_bool [intoChunksLenTied]
@[ga_bridge] theorem intoChunksMutIsTransmute_eq : intoChunksMutIsTransmute = true := by bridge_bool [intoChunksMutIsTransmute]
@[ga_bridge] theorem intoChunksMutLenTied_eq : intoChunksMutLenTied = true := by bridge_bool [intoChunksMutLenTied]
@[ga_bridge] theorem tryFromDelegates_eq : tryFromDelegates = true := by bridge_bool [tryFromDelegates]
@[ga_bridge] theorem tryFromMutDelegates_eq : tryFromMutDelegates = true := by bridge_bool [tryFromMutDelegates]
@[ga_bridge] theorem derefIsAsSlice_eq : derefIsAsSlice = true := by bridge_bool [derefIsAsSlice]
@[ga_bridge] theorem derefMutIsAsMutSlice_eq : derefMutIsAsMutSlice = true := by bridge_bool [derefMutIsAsMutSlice]
@[ga_bridge] theorem refIterIsSliceIter_eq : refIterIsSliceIter = true := by bridge_bool [refIterIsSliceIter]
@[ga_bridge] theorem mutIterIsSliceIterMut_eq : mutIterIsSliceIterMut = true := by bridge_bool [mutIterIsSliceIterMut]
@[ga_bridge] theorem borrowIsAsSlice_eq : borrowIsAsSlice = true := by bridge_bool [borrowIsAsSlice]
@[ga_bridge] theorem borrowMutIsAsMutSlice_eq : borrowMutIsAsMutSlice = true := by bridge_bool [borrowMutIsAsMutSlice]
@[ga_bridge] theorem asRefIsAsSlice_eq : asRefIsAsSlice = true := by bridge_bool [asRefIsAsSlice]
@[ga_bridge] theorem asMutIsAsMutSlice_eq : asMutIsAsMutSlice = true := by bridge_bool [asMutIsAsMutSlice]
@[ga_bridge] theorem asRefArrayIsTransmute_eq : asRefArrayIsTransmute = true := by bridge_bool [asRefArrayIsTransmute]
@[ga_bridge] theorem asMutArrayIsTransmute_eq : asMutArrayIsTransmute = true := by bridge_bool [asMutArrayIsTransmute]
@[ga_bridge] theorem fromArrayIsTransmute_eq : fromArrayIsTransmute = true := by bridge_bool [fromArrayIsTransmute]
@[ga_bridge] theorem intoArrayIsTransmute_eq : intoArrayIsTransmute = true := by bridge_bool [intoArrayIsTransmute]
@[ga_bridge] theorem flattenRefProvenanceOk_eq : flattenRefProvenanceOk = true := by bridge_bool [flattenRefProvenanceOk]
@[ga_bridge] theorem flattenMutProvenanceOk_eq : flattenMutProvenanceOk = true := by bridge_bool [flattenMutProvenanceOk]
@[ga_bridge] theorem unflattenRefProvenanceOk_eq : unflattenRefProvenanceOk = true := by bridge_bool [unflattenRefProvenanceOk]
@[ga_bridge] theorem unflattenMutProvenanceOk_eq : unflattenMutProvenanceOk = true := by bridge_bool [unflattenMutProvenanceOk]

end GA.Bridge.Mem
