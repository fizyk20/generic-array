import GA.Gen.Body
import GA.Model.Iter
import GA.Model.IterOwn
import GA.Lemmas.Attr
/-!
One equation per statement constructor of `GA.Body.exec` (simp set `body_exec`), and what a call
(`runFn`) adds to the execution of a body.  A loop construct keeps its round function as the named
constant `loopBody` / `zipBody` / `fillBody`, so that `simp` leaves the loop folded and a lemma about
the loop can be rewritten in.
-/
namespace GA.Bridge.Body
open GA.Body GA.Iter GA.Own

theorem exec_done (c : Ctx) (x : X) (env : List V) (st : St) :
    exec c (.done x) env st = match eval c env st x with
      | some v => ([], .ret v, st)
      | none => ([], .ub, st) := by
  rfl
theorem exec_letv (c : Ctx) (e : X) (k : S) (env : List V) (st : St) :
    exec c (.letv e k) env st = match eval c env st e with
      | some v => exec c k (env ++ [v]) st
      | none => ([], .ub, st) := by
  rfl
theorem exec_set (c : Ctx) (o : Obj) (f : Fld) (e : X) (k : S) (env : List V) (st : St) :
    exec c (.set o f e k) env st = match natOf (eval c env st e) with
      | some v => exec c k env (st.putObj o ((st.obj o).put f v))
      | none => ([], .ub, st) := by
  rfl
theorem exec_drop (c : Ctx) (sl : X) (k : S) (env : List V) (st : St) :
    exec c (.drop sl k) env st = match eval c env st sl with
      | some (.slice o lo hi) =>
        if GA.Body.panics (idsOf (st.obj o) lo hi) c.bad then (dropEvs (st.obj o) lo hi, .panicked, st)
        else (dropEvs (st.obj o) lo hi ++ (exec c k env st).1, (exec c k env st).2)
      | _ => ([], .ub, st) := by
  rfl
theorem exec_forget (c : Ctx) (k : S) (env : List V) (st : St) :
    exec c (.forget k) env st = exec c k env { st with forgot := true } := by
  rfl
theorem exec_foldS (c : Ctx) (rev : Bool) (sl : X) (body k : S) (env : List V) (st : St) :
    exec c (.foldS rev sl body k) env st =
      match eval c env st sl with
      | some (.slice o lo hi) =>
        match loopOver (loopBody c body env) (if rev then (positions o lo hi).reverse else positions o lo hi) st with
        | (tr, .ret _, st') =>
          let r := exec c k (env ++ [.unit]) st'
          (tr ++ r.1, r.2)
        | r => r
      | _ => ([], .ub, st) := by
  rfl

section
variable {c : Ctx} {env : List V} {st : St} {k : S}

theorem exec_ite {cnd : X} {t e : S} :
    exec c (.ite cnd t e) env st = match boolOf (eval c env st cnd) with
      | some true => exec c t env st
      | some false => exec c e env st
      | none => ([], .ub, st) := by
  rfl
theorem exec_zipS {dst src : X} {body : S} :
    exec c (.zipS dst src body k) env st =
      match eval c env st dst, eval c env st src with
      | some (.slice od dlo dhi), some (.slice os slo shi) =>
        match loopOver (zipBody c body env) (zipPositions od dlo dhi os slo shi) st with
        | (tr, .ret _, st') =>
          let r := exec c k env st'
          (tr ++ r.1, r.2)
        | r => r
      | _, _ => ([], .ub, st) := by
  rfl
theorem exec_callF {arg : X} :
    exec c (.callF arg k) env st = match eval c env st arg with
      | some (.elem x) =>
        if c.fpan st.calls then ([.give st.calls x, .panic st.calls], .panicked, { st with calls := st.calls + 1 })
        else
          let r := exec c k env { st with calls := st.calls + 1 }
          (.give st.calls x :: r.1, r.2)
      | _ => ([], .ub, st) := by
  rfl
theorem exec_cloneOf {src : X} :
    exec c (.cloneOf src k) env st = match eval c env st (.read src) with
      | some (.elem x) =>
        match c.cl st.calls with
        | some y =>
          let r := exec c k (env ++ [.elem y]) { st with calls := st.calls + 1 }
          (.lend st.calls x :: .take st.calls y :: r.1, r.2)
        | none => ([.lend st.calls x, .panic st.calls], .panicked, { st with calls := st.calls + 1 })
      | _ => ([], .ub, st) := by
  rfl
theorem exec_write {dst v : X} :
    exec c (.write dst v k) env st = match eval c env st dst, eval c env st v with
      | some (.slot o i), some (.elem y) =>
        exec c k env (st.putObj o { (st.obj o) with slots := (st.obj o).slots.set i y, uninit := (st.obj o).uninit.erase i })
      | _, _ => ([], .ub, st) := by
  rfl
theorem exec_newOut {moved : Bool} {idx idxb : X} :
    exec c (.newOut moved idx idxb k) env st =
      match natOf (eval c env st idx), natOf (eval c env st idxb) with
      | some i, some b =>
        exec c k env { st with out := ⟨st.self.slots, i, b, 0, []⟩, hasOut := true, forgot := st.forgot || moved }
      | _, _ => ([], .ub, st) := by
  rfl
theorem exec_newBuilder :
    exec c (.newBuilder k) env st =
      exec c k env { st with out := ⟨List.replicate c.n 0, 0, 0, 0, List.range c.n⟩, hasOut := true, outForgot := false } := by
  rfl
theorem exec_fillS {destFirst : Bool} {body : S} :
    exec c (.fillS destFirst body k) env st =
      match Body.fillLoop c destFirst (fillBody c body env) (positions .out 0 st.out.slots.length) st with
      | (tr, .ret _, st') =>
        let r := exec c k env st'
        (tr ++ r.1, r.2)
      | r => r := by
  rfl
theorem exec_pollS :
    exec c (.pollS k) env st = match c.src st.polls with
      | .yield x =>
        if GA.Body.panics [x] c.bad then
          ([.poll st.polls, .take st.polls x, .drop x], .panicked, { st with polls := st.polls + 1 })
        else
          let r := exec c k (env ++ [.bool true]) { st with polls := st.polls + 1 }
          (.poll st.polls :: .take st.polls x :: .drop x :: r.1, r.2)
      | .done =>
        let r := exec c k (env ++ [.bool false]) { st with polls := st.polls + 1 }
        (.poll st.polls :: r.1, r.2)
      | .panic => ([.poll st.polls, .panic st.polls], .panicked, { st with polls := st.polls + 1 }) := by
  rfl
theorem exec_forgetO {o : Obj} :
    exec c (.forgetO o k) env st = match o with
      | .self => exec c k env { st with forgot := true }
      | .out => exec c k env { st with outForgot := true }
      | .other => exec c k env { st with ext := { st.ext with otherForgot := true } } := by
  rfl
theorem exec_lenFail : exec c .lenFail env st = ([.lenFail], .panicked, st) := by
  rfl
theorem exec_forSlots {body : S} :
    exec c (.forSlots body k) env st =
      match loopOver (zipBody c body env) ((List.range st.out.slots.length).map fun p => V.pair (.nat p) (.slot .out p)) st with
      | (tr, .ret _, st') =>
        let r := exec c k env st'
        (tr ++ r.1, r.2)
      | r => r := by
  rfl
theorem exec_callG {arg : X} :
    exec c (.callG arg k) env st = match natOf (eval c env st arg) with
      | some a =>
        match c.cl a with
        | some y =>
          let r := exec c k (env ++ [.elem y]) { st with calls := st.calls + 1 }
          (.take a y :: r.1, r.2)
        | none => ([.panic a], .panicked, { st with calls := st.calls + 1 })
      | none => ([], .ub, st) := by
  rfl
theorem exec_callM {arg : X} :
    exec c (.callM arg k) env st = match eval c env st arg with
      | some (.elem x) =>
        match c.cl st.calls with
        | some y =>
          let r := exec c k (env ++ [.elem y]) { st with calls := st.calls + 1 }
          (.give st.calls x :: .take st.calls y :: r.1, r.2)
        | none => ([.give st.calls x, .panic st.calls], .panicked, { st with calls := st.calls + 1 })
      | _ => ([], .ub, st) := by
  rfl
theorem exec_callM2 {a b : X} :
    exec c (.callM2 a b k) env st = match eval c env st a, eval c env st b with
      | some (.elem x), some (.elem y) =>
        match c.cl st.calls with
        | some z =>
          let r := exec c k (env ++ [.elem z]) { st with calls := st.calls + 1 }
          (.give st.calls x :: .give st.calls y :: .take st.calls z :: r.1, r.2)
        | none => ([.give st.calls x, .give st.calls y, .panic st.calls], .panicked, { st with calls := st.calls + 1 })
      | _, _ => ([], .ub, st) := by
  rfl
theorem exec_fillMapS {l0 : Nat} {src : Obj} {clo body : S} :
    exec c (.fillMapS l0 src clo body k) env st =
      match mapLoop src (loopBody c clo (env.take l0)) (fillBody c body env) (positions .out 0 st.out.slots.length) st with
      | (tr, .ret _, st') =>
        let r := exec c k env st'
        (tr ++ r.1, r.2)
      | r => r := by
  rfl
theorem exec_pollMapS {l0 : Nat} {src : Obj} {clo : S} :
    exec c (.pollMapS l0 src clo k) env st =
      if st.polls < (st.obj src).slots.length then
        match exec c clo (env.take l0 ++ [.slot src st.polls]) { st with polls := st.polls + 1 } with
        | (tr, .ret (.elem y), st') =>
          let r := exec c k (env ++ [.bool true]) st'
          (tr ++ .drop y :: r.1, r.2)
        | (tr, .ret _, st') => (tr, .ub, st')
        | r => r
      else exec c k (env ++ [.bool false]) st := by
  rfl
theorem exec_seqFill {body : S} :
    exec c (.seqFill body k) env st =
      match seqLoop c (fillBody c body env) (positions .out 0 st.out.slots.length) st with
      | (tr, .ret .err, st') => (tr, .ret .err, st')
      | (tr, .ret _, st') =>
        let r := exec c k env st'
        (tr ++ r.1, r.2)
      | r => r := by
  rfl
theorem exec_probeS :
    exec c (.probeS k) env st = match c.src st.polls with
      | .yield _ =>
        let r := exec c k (env ++ [.bool true]) { st with polls := st.polls + 1 }
        (.poll st.polls :: r.1, r.2)
      | .done =>
        let r := exec c k (env ++ [.bool false]) { st with polls := st.polls + 1 }
        (.poll st.polls :: r.1, r.2)
      | .panic => ([.poll st.polls, .panic st.polls], .ret .err, { st with polls := st.polls + 1 }) := by
  rfl
theorem exec_fillZipMapS {l0 : Nat} {a b : Obj} {clo body : S} :
    exec c (.fillZipMapS l0 a b clo body k) env st =
      match zipMapLoop a b (fillBody c clo (env.take l0)) (fillBody c body env) (positions .out 0 st.out.slots.length) st with
      | (tr, .ret _, st') =>
        let r := exec c k env st'
        (tr ++ r.1, r.2)
      | r => r := by
  rfl
theorem exec_pollZipMapS {l0 : Nat} {a b : Obj} {clo : S} :
    exec c (.pollZipMapS l0 a b clo k) env st =
      if st.polls < min (st.obj a).slots.length (st.obj b).slots.length then
        match exec c clo (env.take l0 ++ [.slot a st.polls, .slot b st.polls]) { st with polls := st.polls + 1 } with
        | (tr, .ret (.elem y), st') =>
          let r := exec c k (env ++ [.bool true]) st'
          (tr ++ .drop y :: r.1, r.2)
        | (tr, .ret _, st') => (tr, .ub, st')
        | r => r
      else exec c k (env ++ [.bool false]) st := by
  rfl
theorem exec_allocS :
    exec c (.allocS k) env st =
      if c.ext.allocOk then
        exec c k (env ++ [.ptr (some 1)])
          { st with ext := { st.ext with atrace := st.ext.atrace ++ [.alloc 1 (c.n * c.ext.esz) c.ext.ealign] } }
      else
        exec c k (env ++ [.null])
          { st with ext := { st.ext with atrace := st.ext.atrace ++ [.allocFail (c.n * c.ext.esz) c.ext.ealign] } } := by
  rfl
theorem exec_abortAlloc :
    exec c .abortAlloc env st =
      ([], .panicked, { st with ext := { st.ext with atrace := st.ext.atrace ++ [.handleAllocError], aborted := true } }) := by
  rfl
theorem exec_guardNew {p : X} :
    exec c (.guardNew p k) env st = match eval c env st p with
      | some v => exec c k env { st with ext := { st.ext with guard := some v } }
      | none => ([], .ub, st) := by
  rfl
theorem exec_guardForget :
    exec c (.guardForget k) env st = exec c k env { st with ext := { st.ext with guard := none } } := by
  rfl
theorem exec_builderAt {p : X} :
    exec c (.builderAt p k) env st = match eval c env st p with
      | some (.ptr _) =>
        exec c k env { st with out := ⟨List.replicate c.n 0, 0, 0, 0, List.range c.n⟩, hasOut := true, outForgot := false }
      | some .null => ([], .ub, { st with ext := { st.ext with atrace := st.ext.atrace ++ [.nullDeref] } })
      | _ => ([], .ub, st) := by
  rfl
theorem exec_deallocS {p : X} :
    exec c (.deallocS p k) env st = match eval c env st p with
      | some (.ptr b) =>
        exec c k env { st with ext := { st.ext with atrace := st.ext.atrace ++ [.dealloc (b.getD 0) (c.n * c.ext.esz) c.ext.ealign] } }
      | _ => ([], .ub, st) := by
  rfl
theorem exec_endOut :
    exec c (.endOut k) env st =
      if st.hasOut && !st.outForgot then
        if GA.Body.panics (idsOf st.out 0 st.out.position) c.bad then
          (dropEvs st.out 0 st.out.position, .panicked, { st with outForgot := true })
        else
          let r := exec c k env { st with outForgot := true }
          (dropEvs st.out 0 st.out.position ++ r.1, r.2)
      else exec c k env st := by
  rfl
theorem exec_opaque {why : Nat} : exec c (.opaque why) env st = ([], .ub, st) := by
  rfl

end

theorem panics_eq (ids : List Nat) (bad : Option Nat) : GA.Body.panics ids bad = GA.IterOwn.panics ids bad := by
  cases bad <;> rfl

theorem dropEvs_sliceOf (slots : List Nat) (i b p lo hi : Nat) :
    dropEvs ⟨slots, i, b, p, []⟩ lo hi = (sliceOf slots lo hi).map .drop := rfl
theorem idsOf_eq (o : O) (lo hi : Nat) : idsOf o lo hi = sliceOf o.slots lo hi := rfl

attribute [body_exec] exec_done exec_letv exec_set exec_drop exec_ite exec_forget exec_foldS exec_zipS
  exec_callF exec_cloneOf exec_write exec_newOut exec_newBuilder exec_fillS exec_pollS exec_forgetO
  exec_lenFail exec_forSlots exec_callG exec_callM exec_callM2 exec_fillMapS exec_pollMapS exec_seqFill
  exec_probeS exec_fillZipMapS exec_pollZipMapS exec_allocS exec_abortAlloc exec_guardNew exec_guardForget
  exec_builderAt exec_deallocS exec_endOut exec_opaque
  eval O.get O.put natOf boolOf resolve panics_eq dropEvs_sliceOf idsOf_eq

/-! `runFn2`, `runFn3` and `runFnB` serve one body each (`gaMap_body`, `gaIzip_body`, boxed `generate`) and are
unfolded there. -/

section call
variable {c : Ctx} {D : S} {f g : Fn} {args : List V} {st st' : St} {tr : List Ev} {r : R}

theorem runFn_congr (hr : f.recv = g.recv) (he : exec c f.body args st = exec c g.body args st) :
    runFn c D f args st = runFn c D g args st := by
  simp only [runFn, hr, he]

theorem self_kept (hr : f.recv ≠ .owned ∨ st'.forgot = true) : (f.recv == .owned && !st'.forgot) = false := by
  cases hr with
  | inl h => rw [beq_eq_false_iff_ne.mpr h, Bool.false_and]
  | inr h => rw [h, Bool.not_true, Bool.and_false]

theorem runFn_of_exec (he : exec c f.body args st = (tr, r, st')) (ho : st'.hasOut = false)
    (hr : f.recv ≠ .owned ∨ st'.forgot = true) : runFn c D f args st = (tr, r, st') := by
  have hd := self_kept hr
  unfold runFn
  simp only [he, ho, hd, Bool.false_and, Bool.false_eq_true, if_false, List.append_nil]
  cases r <;> rfl

theorem runFn_owned (he : exec c f.body args st = (tr, r, st')) (hub : r ≠ .ub) (ho : st'.hasOut = false) (hr : f.recv = .owned)
    (hf : st'.forgot = false) :
    runFn c D f args st = (tr ++ (runDropOn c D .self st').1,
      (match (runDropOn c D .self st').2 with | .ret _ => r | d => d), st') := by
  unfold runFn
  simp only [he, ho, hr, hf, Bool.false_and, Bool.false_eq_true, if_false, List.append_nil, beq_self_eq_true,
    Bool.not_false, Bool.and_self, if_true]
  cases r with
  | ub => exact absurd rfl hub
  | _ => cases (runDropOn c D .self st').2 <;> rfl

theorem runFn_local (he : exec c f.body args st = (tr, r, st')) (hub : r ≠ .ub) (hr : f.recv ≠ .owned ∨ st'.forgot = true) :
    runFn c D f args st =
      if st'.hasOut && !(r == .ret .obj) && !st'.outForgot then
        (tr ++ (runDropOn c D .out st').1, (match (runDropOn c D .out st').2 with | .ret _ => r | d => d), st')
      else (tr, r, st') := by
  have hd := self_kept hr
  unfold runFn
  simp only [he, hd, Bool.false_eq_true, if_false, List.append_nil]
  cases r with
  | ub => exact absurd rfl hub
  | _ =>
    split
    · cases (runDropOn c D .out st').2 <;> rfl
    · simp

end call

/-! A builder's array has never-written slots, so its teardown is stated with `dropEvs`, which sees
them (and proved without `body_exec`, whose `panics_eq` / `idsOf_eq` would rewrite that form away);
the iterator's and the consumer's arrays are initialised throughout, and theirs is stated on `sliceOf`. -/

/-- `Drop for GenericArrayIter` -/
@[body_exec] theorem dropIter_exec (c : Ctx) (st : St) (h1 : st.self.index ≤ st.self.indexBack)
    (h2 : st.self.indexBack ≤ st.self.slots.length) (hu : st.self.uninit = []) :
    exec c Gen.Body.dropIter.body [] st = ((sliceOf st.self.slots st.self.index st.self.indexBack).map .drop,
      if GA.IterOwn.panics (sliceOf st.self.slots st.self.index st.self.indexBack) c.bad then .panicked else .ret .unit,
      st) := by
  by_cases hp : GA.IterOwn.panics (sliceOf st.self.slots st.self.index st.self.indexBack) c.bad <;>
    simp [body_exec, St.obj, dropEvs, Gen.Body.dropIter, h1, h2, hu, hp]

/-- `Drop for IntrusiveArrayBuilder`: `array[..position]`, written or not -/
@[body_exec] theorem intrusiveDrop_exec (c : Ctx) (st : St) (h : st.self.position ≤ st.self.slots.length) :
    exec c Gen.Body.intrusiveDrop.body [] st = (dropEvs st.self 0 st.self.position,
      if GA.Body.panics (idsOf st.self 0 st.self.position) c.bad then .panicked else .ret .unit, st) := by
  by_cases hp : GA.Body.panics (idsOf st.self 0 st.self.position) c.bad <;>
    simp [exec_drop, exec_done, eval, O.get, natOf, resolve, St.obj, Gen.Body.intrusiveDrop, h, hp]

/-- `Drop for ArrayConsumer`: `array[position..]` -/
@[body_exec] theorem consumerDrop_exec (c : Ctx) (st : St) (h : st.self.position ≤ st.self.slots.length) (hu : st.self.uninit = []) :
    exec c Gen.Body.consumerDrop.body [] st = ((st.self.slots.drop st.self.position).map .drop,
      if GA.IterOwn.panics (st.self.slots.drop st.self.position) c.bad then .panicked else .ret .unit, st) := by
  have e : sliceOf st.self.slots st.self.position st.self.slots.length = st.self.slots.drop st.self.position :=
    List.take_of_length_le (by simp)
  by_cases hp : GA.IterOwn.panics (st.self.slots.drop st.self.position) c.bad <;>
    simp [body_exec, St.obj, dropEvs, Gen.Body.consumerDrop, h, hu, hp, e]

theorem runFn_builder {c : Ctx} {s : S} {args : List V} {st st' : St} {tr : List Ev} {r : R}
    (he : exec c s args st = (tr, r, st')) (hst : st'.out.position ≤ st'.out.slots.length) (hr : r ≠ .ub) :
    runFn c Gen.Body.intrusiveDrop.body ⟨.ref, s⟩ args st =
      if st'.hasOut && !(r == .ret .obj) && !st'.outForgot then
        (tr ++ dropEvs st'.out 0 st'.out.position,
          if GA.Body.panics (idsOf st'.out 0 st'.out.position) c.bad then .panicked else r, st')
      else (tr, r, st') := by
  have hd : runDropOn c Gen.Body.intrusiveDrop.body .out st' = (dropEvs st'.out 0 st'.out.position,
      if GA.Body.panics (idsOf st'.out 0 st'.out.position) c.bad then .panicked else .ret .unit) := by
    simp only [runDropOn, intrusiveDrop_exec c { st' with self := st'.out } hst]
  rw [runFn_local he hr (.inl (by simp)), hd]
  split
  · split <;> rfl
  · rfl

theorem runFn_ref (c : Ctx) (hb : c.bad = none) (s : S) (args : List V) (st : St) (tr : List Ev) (r : R) (st' : St)
    (he : exec c s args st = (tr, r, st')) (hst : st'.out.position ≤ st'.out.slots.length) (hr : r ≠ .ub) :
    runFn c Gen.Body.intrusiveDrop.body ⟨.ref, s⟩ args st =
      (tr ++ (if st'.hasOut && !(r == .ret .obj) && !st'.outForgot then dropEvs st'.out 0 st'.out.position else []),
        r, st') := by
  rw [runFn_builder he hst hr]
  split <;> simp [hb, GA.Body.panics]

end GA.Bridge.Body
