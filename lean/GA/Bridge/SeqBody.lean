import GA.Gen.SeqBody
import GA.Lemmas.MemBody
import GA.Lemmas.Seq
/-!
# Whole-body tie: the owned operations and the by-reference `split` of src/sequence.rs (C09, C03)

For every length, index and element identity, `MemBody.run` on the *regenerated statement lists* of `GA.Gen.SeqBody`
returns exactly the `List` operation's result.  The value lists every returned block and every id dropped by the
function's own scope end, so exactly-once is visible in it.

Each proof runs the interpreter by its equations (`mem_body`); what a block read, write, copy or swap yields on the
input at hand is a lemma of `GA.Lemmas.Seq`, and guards are decided from the hypotheses given to `simp`.
-/
namespace GA.Bridge.SeqBody
open GA.MemBody GA.Seq GA.Gen

@[simp] theorem assumeInit_nil : assumeInit [] = some [] := rfl

theorem append_body (xs : List Nat) (x k i : Nat) :
    run SeqBody.append ⟨xs.length, k, i⟩ xs [x] = .ok [xs ++ [x]] [] := by
  simp only [mem_body, ↓reduceIte, SeqBody.append, writeAt_uninit xs 1 _ rfl, writeAt_after xs [x] 1 _ rfl rfl,
    assumeInit_map_some, reduceCtorEq]

theorem prepend_body (xs : List Nat) (x k i : Nat) :
    run SeqBody.prepend ⟨xs.length, k, i⟩ xs [x] = .ok [x :: xs] [] := by
  simp only [mem_body, ↓reduceIte, SeqBody.prepend, writeAt_uninit [x] xs.length (xs.length + 1) (Nat.add_comm _ _),
    writeAt_after [x] xs _ 1 rfl rfl, assumeInit_map_some, reduceCtorEq, List.singleton_append]

theorem concat_body (xs ys : List Nat) (i : Nat) :
    run SeqBody.concat ⟨xs.length, ys.length, i⟩ xs ys = .ok [xs ++ ys] [] := by
  simp only [mem_body, ↓reduceIte, SeqBody.concat, writeAt_uninit xs ys.length _ rfl, writeAt_after xs ys _ _ rfl rfl,
    assumeInit_map_some, reduceCtorEq]

/-- `pop_back` is typed only for `N ≥ 1` -/
theorem popBack_body (xs : List Nat) (x k i : Nat) :
    run SeqBody.popBack ⟨(xs ++ [x]).length, k, i⟩ (xs ++ [x]) [] = .ok [xs, [x]] [] := by
  simp only [mem_body, ↓reduceIte, SeqBody.popBack, List.length_append, List.length_singleton, Nat.le_add_left,
    Nat.add_sub_cancel, readAt_left xs [x] _ rfl, readAt_right xs [x] 1 rfl, reduceCtorEq]

theorem popFront_body (xs : List Nat) (x k i : Nat) :
    run SeqBody.popFront ⟨(x :: xs).length, k, i⟩ (x :: xs) [] = .ok [[x], xs] [] := by
  simp only [mem_body, ↓reduceIte, SeqBody.popFront, List.length_cons, Nat.le_add_left, Nat.add_sub_cancel,
    readAt_one (x :: xs) 0 (Nat.succ_pos _), readAt_drop (x :: xs) 1 xs.length (Nat.add_comm _ _), List.getElem_cons_zero,
    List.drop_succ_cons, List.drop_zero, reduceCtorEq]

theorem split_body (xs : List Nat) (k i : Nat) (hk : k ≤ xs.length) :
    run SeqBody.split ⟨xs.length, k, i⟩ xs [] = .ok [xs.take k, xs.drop k] [] := by
  simp only [mem_body, ↓reduceIte, SeqBody.split, hk, readAt_take xs k hk, readAt_drop xs k _ (Nat.add_sub_cancel' hk),
    reduceCtorEq]

/-- `remove` and `swap_remove` open with the same bounds check; it makes the inlined body's `unreachable_unchecked` dead -/
theorem exec_index_guard (e : Env) (s : St) (rest : List Stmt) :
    exec e s (.assertThat (.lt .idx .n) :: .unreachableIf (.or (.ge .idx .n) (.eq .n (.lit 0))) :: rest) =
      if e.idx < e.n then exec e s rest else .panic s.scopeDrops := by
  by_cases h : e.idx < e.n
  · simp only [mem_body, ↓reduceIte, h, Nat.not_le.2 h, Nat.ne_of_gt (Nat.zero_lt_of_lt h), Bool.or_false]
  · simp only [mem_body, ↓reduceIte, h]

/-- `remove(i)`: the trait default with the impl's `remove_unchecked` inlined -/
theorem remove_body (xs : List Nat) (i k : Nat) :
    run SeqBody.remove ⟨xs.length, k, i⟩ xs [] =
      if h : i < xs.length then .ok [[xs[i]], xs.eraseIdx i] [] else .panic xs := by
  rw [run, SeqBody.remove, exec_index_guard]
  by_cases h : i < xs.length
  · have a2 : 1 ≤ xs.length - i := Nat.sub_pos_of_lt h
    have a5 : 1 ≤ xs.length := Nat.zero_lt_of_lt h
    simp only [mem_body, ↓reduceIte, h, Nat.le_of_lt h, a2, a5, readAt_one xs i h, copyWithin_succ xs i h,
      readAt_left (xs.eraseIdx i) _ _ (List.length_eraseIdx_of_lt h).symm, reduceCtorEq, dite_true]
  · simp only [mem_body, ↓reduceIte, h, dite_false]

/-- `swap_remove(i)`: the trait default with the impl's `swap_remove_unchecked` inlined -/
theorem swapRemove_body (xs : List Nat) (i k : Nat) :
    run SeqBody.swapRemove ⟨xs.length, k, i⟩ xs [] =
      if h : i < xs.length then .ok [[xs[i]], (xs.set i (xs[xs.length - 1]'(by omega))).take (xs.length - 1)] []
      else .panic xs := by
  rw [run, SeqBody.swapRemove, exec_index_guard]
  by_cases h : i < xs.length
  · have a5 : 1 ≤ xs.length := Nat.zero_lt_of_lt h
    have hl : xs.length - 1 < xs.length := Nat.sub_one_lt (Nat.ne_of_gt a5)
    simp only [mem_body, ↓reduceIte, h, a5, swapAt_of_lt xs i _ h hl, readAt_one, readAt_take, List.length_set, hl, Nat.sub_le,
      List.getElem_set_self, List.take_set_of_le (Nat.le_refl _), reduceCtorEq, dite_true]
  · simp only [mem_body, ↓reduceIte, h, dite_false]

theorem splitRef_body (n k i : Nat) (hk : k ≤ n) :
    runViews false SeqBody.splitRef ⟨n, k, i⟩ = .views [⟨0, k, false⟩, ⟨k, n - k, false⟩] := by
  simp only [mem_body, ↓reduceIte, SeqBody.splitRef, hk, Nat.add_sub_cancel' hk]

/-- both mutable views are made from the one pointer obtained through the unique borrow -/
theorem splitMut_body (n k i : Nat) (hk : k ≤ n) :
    runViews true SeqBody.splitMut ⟨n, k, i⟩ = .views [⟨0, k, true⟩, ⟨k, n - k, true⟩] := by
  simp only [mem_body, ↓reduceIte, SeqBody.splitMut, hk, Nat.add_sub_cancel' hk]

end GA.Bridge.SeqBody
