import GA.Gen.SeqBody
import GA.Lemmas.MemBody
/-!
# Whole-body tie: `chunks_from_slice(_mut)` and `slice_from_chunks(_mut)` of src/lib.rs (C10)

`len` = length of the argument slice, passed as `K`.
-/
namespace GA.Bridge.SeqBody
open GA.MemBody GA.Gen

theorem chunksFromSlice_body (n len i : Nat) (hn : 0 < n) :
    runViews false SeqBody.chunksFromSlice ⟨n, len, i⟩ =
      .views [⟨0, len / n * n, false⟩, ⟨len / n * n, len - len / n * n, false⟩] := by
  have h1 := Nat.div_mul_le_self len n
  simp only [mem_body, ↓reduceIte, SeqBody.chunksFromSlice, Nat.ne_of_gt hn, h1, Nat.add_sub_cancel' h1]

theorem chunksFromSlice_body_zero (len i : Nat) :
    runViews false SeqBody.chunksFromSlice ⟨0, len, i⟩ = if len = 0 then .views [⟨0, 0, false⟩, ⟨0, 0, false⟩] else .panic := by
  by_cases h : len = 0
  · subst h; simp only [mem_body, ↓reduceIte, SeqBody.chunksFromSlice, List.replicate]
  · simp only [mem_body, ↓reduceIte, SeqBody.chunksFromSlice, h]

/-- both mutable views are made from the *one* pointer taken through the unique borrow: a second `as_mut_ptr()` would
    end the first view (the defect repaired in /repo) -/
theorem chunksFromSliceMut_body (n len i : Nat) (hn : 0 < n) :
    runViews true SeqBody.chunksFromSliceMut ⟨n, len, i⟩ =
      .views [⟨0, len / n * n, true⟩, ⟨len / n * n, len - len / n * n, true⟩] := by
  have h1 := Nat.div_mul_le_self len n
  simp only [mem_body, ↓reduceIte, SeqBody.chunksFromSliceMut, Nat.ne_of_gt hn, h1, Nat.add_sub_cancel' h1]

theorem chunksFromSliceMut_body_zero (len i : Nat) :
    runViews true SeqBody.chunksFromSliceMut ⟨0, len, i⟩ = if len = 0 then .views [⟨0, 0, true⟩, ⟨0, 0, true⟩] else .panic := by
  by_cases h : len = 0
  · subst h; simp only [mem_body, ↓reduceIte, SeqBody.chunksFromSliceMut, List.replicate]
  · simp only [mem_body, ↓reduceIte, SeqBody.chunksFromSliceMut, h]

theorem sliceFromChunks_body (n len i : Nat) :
    runViews false SeqBody.sliceFromChunks ⟨n, len, i⟩ = .views [⟨0, len * n, false⟩] ∧
    runViews true SeqBody.sliceFromChunksMut ⟨n, len, i⟩ = .views [⟨0, len * n, true⟩] := by
  constructor <;> simp only [mem_body, ↓reduceIte, SeqBody.sliceFromChunks, SeqBody.sliceFromChunksMut]

end GA.Bridge.SeqBody
