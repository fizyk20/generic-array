import GA.Model.ArrMac
import GA.Lemmas.Tac
import GA.Lemmas.Attr
namespace GA.Bridge.Arr
open GA.Gen.Arr GA.Arr
@[ga_bridge] theorem arrArms_eq : arrArms =
    [⟨.list .star, .fromArrayList true⟩, ⟨.repTy, .transmuteRepeat⟩, ⟨.repExpr, .fromArrayRepeat true⟩] := by rfl
@[ga_bridge] theorem boxArms_eq : boxArms =
    [⟨.list .star, .vecHelperList⟩, ⟨.repTy, .tryFromVecRepeatTy⟩, ⟨.repExpr, .tryFromVecRepeatConst⟩] := by rfl
@[ga_bridge] theorem helperUnitIsOnePerExpr_eq : helperUnitIsOnePerExpr = true := by bridge_bool [helperUnitIsOnePerExpr]
@[ga_bridge] theorem vecHelperLenTied_eq : vecHelperLenTied = true := by bridge_bool [vecHelperLenTied]
/-- the helper items the expansions define have reserved (`__`-prefixed) names: an element expression written by the
    caller cannot be captured by one of them -/
@[ga_bridge] theorem helperNamesReserved_eq : helperNamesReserved = true := by bridge_bool [helperNamesReserved]
end GA.Bridge.Arr
