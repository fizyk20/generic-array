import GA.Model.Fill
import GA.Lemmas.Tac
import GA.Lemmas.Attr
/-!
Obligations for `src/impl_const_default.rs` / `src/impl_zeroize.rs`.  The field *order* and the
field *names* are not pinned: what is demanded is that every declared field of each storage node is
initialised with the default of its own type.
-/
namespace GA.Bridge.Fill
open GA.Gen.Fill GA.Gen.Layout GA.Layout GA.Fill

def initOk : FieldKind → Option InitKind → Bool
  | .child, some .childDefault => true
  | .child, some .inferred => true
  | .elem, some .elemDefault => true
  | .elem, some .inferred => true
  | .phantom, some .phantom => true
  | .phantom, some .inferred => true
  | .unit, some .inferred => true
  | _, _ => false

def literalOk (fields : List FieldKind) (names : List String) (inits : List (String × InitKind)) : Bool :=
  decide (names.length = fields.length) && (fields.zip names).all fun fn => initOk fn.1 (inits.lookup fn.2)

theorem even_literal_ok : literalOk evenFields evenFieldNames evenDefaultInit = true := by decide
theorem odd_literal_ok : literalOk oddFields oddFieldNames oddDefaultInit = true := by decide
theorem wrapper_literal_ok : literalOk [.child] wrapperFieldNames wrapperDefaultInit = true := by decide
@[ga_bridge] theorem constDefaultReturnsDEFAULT_eq : constDefaultReturnsDEFAULT = true := by bridge_bool [constDefaultReturnsDEFAULT]
@[ga_bridge] theorem zeroizeIsElementwiseOverSlice_eq : zeroizeIsElementwiseOverSlice = true := by bridge_bool [zeroizeIsElementwiseOverSlice]
end GA.Bridge.Fill
