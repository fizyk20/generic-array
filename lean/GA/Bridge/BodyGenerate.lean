import GA.Bridge.BodyBuilder
import GA.Lemmas.Ops
import GA.Lemmas.Func
/-!
Refinement obligation for the whole body of `GenericSequence::generate` for `GenericArray`
(src/lib.rs) against `GA.Ops.generate`; `gen_loop` also serves the boxed `generate` (`GA.Bridge.BodyBoxed`).
-/
namespace GA.Bridge.BodyCollect
open GA.Body GA.Own GA.Bridge.Body GA.Bridge.BodyBuilder

/-- the generator calls `f(i), f(i+1), …` for `rem` slots: events, whether all returned, values,
    number of calls made -/
def genSpec (f : Nat → Option Nat) : Nat → Nat → List Nat → List Ev × Bool × List Nat × Nat
  | 0, _, out => ([], true, out, 0)
  | rem + 1, i, out =>
    match f i with
    | some y =>
      let r := genSpec f rem (i + 1) (out ++ [y])
      (.take i y :: r.1, r.2.1, r.2.2.1, r.2.2.2 + 1)
    | none => ([.panic i], false, out, 1)

theorem genSrc_step (f : Nat → Option Nat) (i : Nat) :
    (genSrc f).step i = (match f i with
      | some y => Step.yield [.take i y] y (i + 1)
      | none => Step.panic [.panic i] (i + 1)) := rfl

theorem own_genLoop_eq (f : Nat → Option Nat) : ∀ (rem i : Nat) (out : List Nat),
    Own.fillLoop true true (genSrc f) rem i out =
      (if (genSpec f rem i out).2.1 then ((genSpec f rem i out).1, FillRes.full (genSpec f rem i out).2.2.1 (i + rem))
       else ((genSpec f rem i out).1 ++ (genSpec f rem i out).2.2.1.map .drop, FillRes.panicked))
  | 0, i, out => by simp [Own.fillLoop, genSpec]
  | rem + 1, i, out => by
    have ih := own_genLoop_eq f rem (i + 1)
    cases hf : f i with
    | none => simp [Own.fillLoop, genSpec, hf, builderDrop, genSrc]
    | some y =>
      have e : i + 1 + rem = i + (rem + 1) := by omega
      simp only [Own.fillLoop, genSrc_step, genSpec, hf, ih (out ++ [y]), e]
      split <;> simp

theorem genSpec_full (f : Nat → Option Nat) (rem i : Nat) (out : List Nat) (h : (genSpec f rem i out).2.1 = true) :
    (genSpec f rem i out).2.2.1.length = out.length + rem := by
  have := fillLoop_len true (genSrc f) rem i out
  rwa [own_genLoop_eq, if_pos h] at this

theorem genSpec_some (g : Nat → Id) (n : Nat) :
    (genSpec (fun i => some (g i)) n 0 []).2.1 = true ∧ (genSpec (fun i => some (g i)) n 0 []).2.2.1 = (List.range n).map g ∧
    GA.Func.rets (genSpec (fun i => some (g i)) n 0 []).1 = (List.range n).map (fun i => (i, g i)) := by
  obtain ⟨tr, s, hf, hr⟩ := GA.Func.fill_gen g n
  rw [own_genLoop_eq] at hf
  by_cases hok : (genSpec (fun i => some (g i)) n 0 []).2.1 = true
  · rw [if_pos hok] at hf
    obtain ⟨h1, h2⟩ := Prod.mk.inj hf
    exact ⟨hok, (FillRes.full.inj h2).1, h1 ▸ hr⟩
  · rw [if_neg hok] at hf
    cases (Prod.mk.inj hf).2

/-- one round of `generate`'s loop: call `f(i)`, write the result into slot `i` -/
def GenRound (c : Ctx) (round : V → St → List Ev × R × St) : Prop :=
  ∀ (outL : List Nat) (rem : Nat) (s : O) (ho : Bool) (k : Nat) (f : Bool) (p : Nat) (o : Bool) (e : StExt),
    outL.length + 1 < word →
    round (.pair (.nat outL.length) (.slot .out outL.length)) ⟨s, bO outL (rem + 1), ho, k, f, p, o, e⟩ =
      match c.cl outL.length with
      | some y => ([.take outL.length y], .ret .unit, ⟨s, bO (outL ++ [y]) rem, ho, k + 1, f, p, o, e⟩)
      | none => ([.panic outL.length], .panicked, ⟨s, bO outL (rem + 1), ho, k + 1, f, p, o, e⟩)

/-- stack `generate` and the two branches of the boxed one are instances -/
theorem gen_loop (c : Ctx) (round : V → St → List Ev × R × St) (hround : GenRound c round) (s : O) (ho : Bool)
    (f : Bool) (p : Nat) (o : Bool) (e : StExt) :
    ∀ (rem : Nat) (outL : List Nat) (k : Nat), outL.length + rem < word →
      loopOver round ((List.range' outL.length rem).map fun p => V.pair (.nat p) (.slot .out p))
          ⟨s, bO outL rem, ho, k, f, p, o, e⟩ =
        let g := genSpec c.cl rem outL.length outL
        (g.1, (if g.2.1 then R.ret .unit else R.panicked),
          ⟨s, bO g.2.2.1 (outL.length + rem - g.2.2.1.length), ho, k + g.2.2.2, f, p, o, e⟩) := by
  intro rem
  induction rem with
  | zero => intro outL k _; simp [loopOver, genSpec]
  | succ rem ih =>
    intro outL k hw
    rw [List.range'_succ, List.map_cons, loopOver, hround outL rem _ _ _ _ _ _ _ (by omega), genSpec]
    cases c.cl outL.length with
    | none => simp
    | some y =>
      have := ih (outL ++ [y]) (k + 1) (by simp; omega)
      simp only [List.length_append, List.length_singleton] at this
      simp only [this, show outL.length + 1 + rem = outL.length + (rem + 1) by omega]
      simp
      omega

theorem generate_round (c : Ctx) : GenRound c (zipBody c (loopBodyOf Gen.Body.generate.body) []) := by
  intro outL rem s ho k f p o e hw
  cases hc : c.cl outL.length <;>
    simp [zipBody, loopBodyOf, Gen.Body.generate, body_exec, St.obj, St.putObj, bO, hw, repl_set0, erase_fresh, hc]

theorem gen_loop_body (c : Ctx) (selfO : O) (fg : Bool) (pl : Nat) :
    ∀ (rem : Nat) (outL : List Nat) (calls : Nat), outL.length + rem < word →
      loopOver (fun p s =>
          match p with
          | .pair i d => exec c (loopBodyOf Gen.Body.generate.body) ([] ++ [i, d]) s
          | _ => ([], .ub, s))
          ((List.range' outL.length rem).map fun p => V.pair (.nat p) (.slot .out p)) (bst selfO outL rem calls fg pl)
        = ((genSpec c.cl rem outL.length outL).1,
           (if (genSpec c.cl rem outL.length outL).2.1 then R.ret .unit else R.panicked),
           bst selfO (genSpec c.cl rem outL.length outL).2.2.1
             (outL.length + rem - (genSpec c.cl rem outL.length outL).2.2.1.length)
             (calls + (genSpec c.cl rem outL.length outL).2.2.2) fg pl) :=
  gen_loop c _ (generate_round c) selfO true fg pl false {}

/-- **`generate`, whole body**: for every length and every generator (returning or panicking at any
    index), interpreting the regenerated body gives exactly the events and the result of the
    ownership model's `generate` -/
theorem generate_body (c : Ctx) (hn : c.n < word) (hb : c.bad = none) (selfO : O) :
    let r := runFn c Gen.Body.intrusiveDrop.body Gen.Body.generate []
      ⟨selfO, ⟨[], 0, 0, 0, []⟩, false, 0, false, 0, false, {}⟩
    (r.1, resOf r.2.1) = ((GA.Ops.generate c.cl c.n).1, some (GA.Ops.generate c.cl c.n).2) := by
  have hl := gen_loop c _ (generate_round c) selfO true false 0 false {} c.n [] 0 (by simpa using hn)
  have hlen := genSpec_full c.cl c.n 0 []
  simp only [loopBodyOf, Gen.Body.generate, List.length_nil, Nat.zero_add] at hl hlen
  simp only [GA.Ops.generate, ga_bridge, own_genLoop_eq]
  by_cases hok : (genSpec c.cl c.n 0 []).2.1 = true
  · simp [runFn, Gen.Body.generate, body_exec, List.range_eq_range', hl, hok, hlen hok, bO_full, resOf]
  · simp [runFn, runDropOn, Gen.Body.generate, body_exec, List.range_eq_range', hl, hok, hb, GA.IterOwn.panics, resOf]

end GA.Bridge.BodyCollect
