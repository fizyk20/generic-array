import GA.Gen.SeqBody
import GA.Lemmas.MemBody
/-!
# Whole-body tie: `as_slice` / `as_mut_slice` and the checked slice → array-reference conversions of src/lib.rs (C02)

`len` = length of the argument slice, passed as `K`.
-/
namespace GA.Bridge.SeqBody
open GA.MemBody GA.Gen

/-- the pointer is the receiver reference itself (`self as *const Self` / `self as *mut Self`) -/
theorem asSlice_body (n k i : Nat) :
    runViews false SeqBody.asSlice ⟨n, k, i⟩ = .views [⟨0, n, false⟩] ∧
    runViews true SeqBody.asMutSlice ⟨n, k, i⟩ = .views [⟨0, n, true⟩] := by
  constructor <;> simp only [mem_body, ↓reduceIte, SeqBody.asSlice, SeqBody.asMutSlice]

theorem fromSlice_body (n len i : Nat) :
    runViews false SeqBody.fromSlice ⟨n, len, i⟩ = if len ≠ n then .panic else .views [⟨0, n, false⟩] := by
  by_cases h : len = n
  · subst h; simp only [mem_body, ↓reduceIte, SeqBody.fromSlice, ne_eq, not_true_eq_false]
  · simp only [mem_body, ↓reduceIte, SeqBody.fromSlice, ne_eq, h, not_false_eq_true]

theorem tryFromSlice_body (n len i : Nat) :
    runViews false SeqBody.tryFromSlice ⟨n, len, i⟩ = if len ≠ n then .err else .views [⟨0, n, false⟩] := by
  by_cases h : len = n
  · subst h; simp only [mem_body, ↓reduceIte, SeqBody.tryFromSlice, ne_eq, not_true_eq_false]
  · simp only [mem_body, ↓reduceIte, SeqBody.tryFromSlice, ne_eq, h, not_false_eq_true]

theorem fromMutSlice_body (n len i : Nat) :
    runViews true SeqBody.fromMutSlice ⟨n, len, i⟩ = if len = n then .views [⟨0, n, true⟩] else .panic := by
  by_cases h : len = n
  · subst h; simp only [mem_body, ↓reduceIte, SeqBody.fromMutSlice]
  · simp only [mem_body, ↓reduceIte, SeqBody.fromMutSlice, h]

end GA.Bridge.SeqBody
