import GA.Gen.HexBodies
/-!
`src/hex.rs`: thresholds, buffer sizes, digit-budget arithmetic and alphabets are regenerated fragments (`GA.Gen.Hex`); the
*loop structure* around them — which buffer each strategy formats into, that the table encoder writes digit pair `i` at
`dst[2i], dst[2i+1]`, that the large-array path applies the remaining digit budget to every chunk — is the hand-written
skeleton of `GA.Model.Hex`.  The regenerated bodies are, token for token, the ones that skeleton was written against.
-/
namespace GA.Bridge.HexBodies
open GA.Gen.HexBodies

theorem bodies_are_the_modelled_ones : bodies = [
  ("hex_encode_fallback", "ifdst.len()<src.len()*2{unsafe{core::hint::unreachable_unchecked()};}letalphabet=matchUPPER{true=>b\"0123456789ABCDEF\",false=>b\"0123456789abcdef\",};dst.chunks_exact_mut(2).zip(src).for_each(|(s,c)|{s[0]=alphabet[(c>>4)asusize];s[1]=alphabet[(c&0xF)asusize];});"),
  ("hex_encode", "debug_assert!(dst.len()>=(src.len()*2));#[cfg(any(miri,not(feature=\"faster-hex\")))]hex_encode_fallback::<UPPER>(src,dst);#[cfg(all(feature=\"faster-hex\",not(miri)))]matchUPPER{true=>unsafe{faster_hex::hex_encode_upper(src,dst).unwrap_unchecked()},false=>unsafe{faster_hex::hex_encode(src,dst).unwrap_unchecked()},};"),
  ("generic_hex", "letmax_digits=N::USIZE*2;letmax_digits=matchf.precision(){Some(precision)ifprecision<max_digits=>precision,_=>max_digits,};letmax_bytes=(max_digits>>1)+(max_digits&1);letinput={ifmax_bytes>N::USIZE{unsafe{core::hint::unreachable_unchecked()};}&arr[..max_bytes]};ifN::USIZE<=1024{letmutbuf=GenericArray::<u8,Sum<N,N>>::default();ifN::USIZE<16{hex_encode_fallback::<UPPER>(arr,&mutbuf);}else{hex_encode::<UPPER>(input,&mutbuf);}f.write_str(unsafe{str::from_utf8_unchecked(buf.get_unchecked(..max_digits))})?;}else{letmutbuf=[0u8;2048];letmutdigits_left=max_digits;forchunkininput.chunks(1024){hex_encode::<UPPER>(chunk,&mutbuf);letn=min(chunk.len()*2,digits_left);f.write_str(unsafe{str::from_utf8_unchecked(buf.get_unchecked(..n))})?;digits_left-=n;}}Ok(())"),
  ("impl fmt::LowerHexforGenericArray<u8,N>::fmt", "generic_hex::<_,false>(self,f)"),
  ("impl fmt::UpperHexforGenericArray<u8,N>::fmt", "generic_hex::<_,true>(self,f)")] := by rfl

end GA.Bridge.HexBodies
