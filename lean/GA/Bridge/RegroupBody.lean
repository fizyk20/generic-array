import GA.Gen.SeqBody
import GA.Lemmas.MemBody
/-!
# Whole-body tie: the by-reference `flatten` / `unflatten` impls of src/sequence.rs (C11)
-/
namespace GA.Bridge.SeqBody
open GA.MemBody GA.Gen

/-- `K` carries `M` for `flatten` (`N·M` elements) and `NM` for `unflatten` -/
theorem regroupRef_body (n k i : Nat) :
    runViews false SeqBody.flattenRef ⟨n, k, i⟩ = .views [⟨0, n * k, false⟩] ∧
    runViews true SeqBody.flattenMut ⟨n, k, i⟩ = .views [⟨0, n * k, true⟩] ∧
    runViews false SeqBody.unflattenRef ⟨n, k, i⟩ = .views [⟨0, k, false⟩] ∧
    runViews true SeqBody.unflattenMut ⟨n, k, i⟩ = .views [⟨0, k, true⟩] := by
  refine ⟨?_, ?_, ?_, ?_⟩ <;>
    simp only [mem_body, ↓reduceIte, SeqBody.flattenRef, SeqBody.flattenMut, SeqBody.unflattenRef, SeqBody.unflattenMut,
      bne_self_eq_false]

end GA.Bridge.SeqBody
