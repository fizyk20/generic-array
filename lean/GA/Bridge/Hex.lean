import GA.Gen.Hex
import GA.Lemmas.Tac
import GA.Lemmas.Attr
/-! Bridge obligations for src/hex.rs.  The thresholds are *not* pinned to 16/1024/2048: the theorems
    hold for any thresholds with `0 < chunkLen` and `2 * chunkLen ≤ largeBufLen`. -/
namespace GA.Bridge.Hex
open GA.Gen.Hex

@[ga_bridge] theorem maxDigits_eq (n : Nat) : maxDigits n = 2 * n := by bridge_nat [maxDigits]
@[ga_bridge] theorem precisionApplies_eq (p md : Nat) : precisionApplies p md = decide (p < md) := by bridge_bool [precisionApplies]
theorem maxBytes_eq (md : Nat) : maxBytes md = (md + 1) / 2 := by
  simp only [maxBytes, Nat.shiftRight_eq_div_pow, Nat.and_one_is_mod]; omega
@[ga_bridge] theorem inputGuardFails_eq (mb n : Nat) : inputGuardFails mb n = decide (mb > n) := by bridge_bool [inputGuardFails]
@[ga_bridge] theorem inputLen_eq (mb : Nat) : inputLen mb = mb := by bridge_nat [inputLen]
@[ga_bridge] theorem smallBufLen_eq (n : Nat) : smallBufLen n = 2 * n := by bridge_nat [smallBufLen]
@[ga_bridge] theorem tinyEncodesWholeArray_eq : tinyEncodesWholeArray = true := by bridge_bool [tinyEncodesWholeArray]
@[ga_bridge] theorem smallWriteLen_eq (md : Nat) : smallWriteLen md = md := by bridge_nat [smallWriteLen]
@[ga_bridge] theorem chunkDigits_eq (clen dl : Nat) : chunkDigits clen dl = min (2 * clen) dl := by bridge_nat [chunkDigits]
@[ga_bridge] theorem chunkWriteLen_eq (k : Nat) : chunkWriteLen k = k := by bridge_nat [chunkWriteLen]
theorem chunk_pos : 0 < chunkLen := by decide
theorem chunk_fits : 2 * chunkLen ≤ largeBufLen := by decide
theorem alphabets_len : alphabetUpper.length = 16 ∧ alphabetLower.length = 16 := by decide

end GA.Bridge.Hex
