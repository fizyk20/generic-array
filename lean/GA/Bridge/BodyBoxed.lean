import GA.Bridge.BodyGenerate
import GA.Bridge.HeapGen
import GA.Bridge.Heap
import GA.Model.Heap
/-!
Refinement obligation for the whole body of `<Box<GenericArray<T, N>> as GenericSequence<T>>::generate`
(src/impl_alloc.rs) — layout test, `alloc`, null test with `handle_alloc_error`, the `DeallocOnDrop`
guard (its `Drop` impl is translated too), the builder over the raw block, the fill loop, `finish`,
`forget(guard)`, `Box::from_raw` — against the allocator-event model `GA.Heap.boxedGenerate`.
-/
namespace GA.Bridge.BodyBoxed
open GA.Body GA.Own GA.Bridge.Body GA.Bridge.BodyBuilder GA.Bridge.BodyCollect

def toH : GA.Body.AEv → GA.Heap.AEv
  | .alloc b s a => .alloc b s a
  | .allocFail s a => .allocFail s a
  | .dealloc b s a => .dealloc b s a
  | .handleAllocError => .handleAllocError
  | .nullDeref => .nullDeref

/-- builder state with an arbitrary extension (allocator trace, guard) -/
def bstX (selfO : O) (outL : List Nat) (rem calls : Nat) (fg : Bool) (pl : Nat) (ex : StExt) : St :=
  ⟨selfO, ⟨outL ++ List.replicate rem 0, 0, 0, outL.length, List.range' outL.length rem⟩, true, calls, fg, pl, false, ex⟩

def thenOf : S → S
  | .ite _ t _ => t
  | _ => .opaque 0
def elseOf : S → S
  | .ite _ _ e => e
  | _ => .opaque 0
/-- the `forSlots` body inside a branch -/
def slotsBodyOf : S → S
  | .letv _ k => slotsBodyOf k
  | .guardNew _ k => slotsBodyOf k
  | .builderAt _ k => slotsBodyOf k
  | .allocS k => slotsBodyOf k
  | .ite _ _ e => slotsBodyOf e
  | .forSlots b _ => b
  | _ => .opaque 0

theorem dangling_round (c : Ctx) (e0 : V) :
    GenRound c (zipBody c (slotsBodyOf (thenOf Gen.Body.boxedGenerate.body)) [e0]) := by
  intro outL rem s ho k f p o e hw
  cases hc : c.cl outL.length <;>
    simp [zipBody, slotsBodyOf, thenOf, Gen.Body.boxedGenerate, body_exec, St.obj, St.putObj, bO, hw, repl_set0, erase_fresh, hc]

theorem alloc_round (c : Ctx) (e0 e1 : V) :
    GenRound c (zipBody c (slotsBodyOf (elseOf Gen.Body.boxedGenerate.body)) [e0, e1]) := by
  intro outL rem s ho k f p o e hw
  cases hc : c.cl outL.length <;>
    simp [zipBody, slotsBodyOf, elseOf, Gen.Body.boxedGenerate, body_exec, St.obj, St.putObj, bO, hw, repl_set0, erase_fresh, hc]

/-- the fill loop of boxed `generate`, dangling branch (environment `[ptr]`) -/
theorem gen_loop_dangling (c : Ctx) (selfO : O) (fg : Bool) (pl : Nat) (ex : StExt) (e0 : V) :
    ∀ (rem : Nat) (outL : List Nat) (calls : Nat), outL.length + rem < word →
      loopOver (fun p s =>
          match p with
          | .pair i d => exec c (slotsBodyOf (thenOf Gen.Body.boxedGenerate.body)) ([e0] ++ [i, d]) s
          | _ => ([], .ub, s))
          ((List.range' outL.length rem).map fun p => V.pair (.nat p) (.slot .out p)) (bstX selfO outL rem calls fg pl ex)
        = ((genSpec c.cl rem outL.length outL).1,
           (if (genSpec c.cl rem outL.length outL).2.1 then R.ret .unit else R.panicked),
           bstX selfO (genSpec c.cl rem outL.length outL).2.2.1
             (outL.length + rem - (genSpec c.cl rem outL.length outL).2.2.1.length)
             (calls + (genSpec c.cl rem outL.length outL).2.2.2) fg pl ex) :=
  gen_loop c _ (dangling_round c e0) selfO true fg pl false ex

/-- the fill loop of boxed `generate`, allocated branch (environment `[ptr, ptr]`) -/
theorem gen_loop_alloc (c : Ctx) (selfO : O) (fg : Bool) (pl : Nat) (ex : StExt) (e0 e1 : V) :
    ∀ (rem : Nat) (outL : List Nat) (calls : Nat), outL.length + rem < word →
      loopOver (fun p s =>
          match p with
          | .pair i d => exec c (slotsBodyOf (elseOf Gen.Body.boxedGenerate.body)) ([e0, e1] ++ [i, d]) s
          | _ => ([], .ub, s))
          ((List.range' outL.length rem).map fun p => V.pair (.nat p) (.slot .out p)) (bstX selfO outL rem calls fg pl ex)
        = ((genSpec c.cl rem outL.length outL).1,
           (if (genSpec c.cl rem outL.length outL).2.1 then R.ret .unit else R.panicked),
           bstX selfO (genSpec c.cl rem outL.length outL).2.2.1
             (outL.length + rem - (genSpec c.cl rem outL.length outL).2.2.1.length)
             (calls + (genSpec c.cl rem outL.length outL).2.2.2) fg pl ex) :=
  gen_loop c _ (alloc_round c e0 e1) selfO true fg pl false ex

/-- the allocator fails: `handle_alloc_error`, before any use of the null pointer, whatever the length -/
theorem boxedGenerate_allocFail (c : Ctx) (hsz : c.n * c.ext.esz ≠ 0) (hal : c.ext.allocOk = false) (selfO : O) :
    let r := runFnB c Gen.Body.intrusiveDrop.body Gen.Body.deallocGuardDrop.body Gen.Body.boxedGenerate []
      ⟨selfO, ⟨[], 0, 0, 0, []⟩, false, 0, false, 0, false, {}⟩
    (r.1, r.2.1, r.2.2.ext.atrace, r.2.2.ext.aborted) =
      ([], .panicked, [.allocFail (c.n * c.ext.esz) c.ext.ealign, .handleAllocError], true) := by
  simp [runFnB, Gen.Body.boxedGenerate, body_exec, hsz, hal]

theorem boxedGenerate_run (c : Ctx) (hn : c.n < word) (hb : c.bad = none) (selfO : O) :
    let r := runFnB c Gen.Body.intrusiveDrop.body Gen.Body.deallocGuardDrop.body Gen.Body.boxedGenerate []
      ⟨selfO, ⟨[], 0, 0, 0, []⟩, false, 0, false, 0, false, {}⟩
    let g := genSpec c.cl c.n 0 []
    (r.1, r.2.1, r.2.2.ext.atrace, r.2.2.ext.aborted) =
      if c.n * c.ext.esz = 0 then
        if g.2.1 then (g.1, .ret (.boxed none g.2.2.1), [], false)
        else (g.1 ++ g.2.2.1.map .drop, .panicked, [], false)
      else if c.ext.allocOk then
        if g.2.1 then (g.1, .ret (.boxed (some 1) g.2.2.1), [.alloc 1 (c.n * c.ext.esz) c.ext.ealign], false)
        else (g.1 ++ g.2.2.1.map .drop, .panicked,
          [.alloc 1 (c.n * c.ext.esz) c.ext.ealign, .dealloc 1 (c.n * c.ext.esz) c.ext.ealign], false)
      else ([], .panicked, [.allocFail (c.n * c.ext.esz) c.ext.ealign, .handleAllocError], true) := by
  have hd := gen_loop c _ (dangling_round c (.ptr none)) selfO true false 0 false { guard := some (.ptr none) } c.n [] 0
    (by simpa using hn)
  have ha := gen_loop c _ (alloc_round c (.ptr (some 1)) (.ptr (some 1))) selfO true false 0 false
    { atrace := [.alloc 1 (c.n * c.ext.esz) c.ext.ealign], guard := some (.ptr (some 1)) } c.n [] 0 (by simpa using hn)
  have hlen := genSpec_full c.cl c.n 0 []
  simp only [slotsBodyOf, thenOf, elseOf, Gen.Body.boxedGenerate, List.length_nil, Nat.zero_add] at hd ha hlen
  by_cases hsz : c.n * c.ext.esz = 0
  · by_cases hok : (genSpec c.cl c.n 0 []).2.1 = true
    · simp [runFnB, Gen.Body.boxedGenerate, body_exec, List.range_eq_range', hsz, hd, hok, hlen hok, bO_full]
    · simp [runFnB, runDropOn, Gen.Body.boxedGenerate, Gen.Body.deallocGuardDrop, body_exec, List.range_eq_range', hsz, hd, hok,
        hb, GA.IterOwn.panics]
  · by_cases hal : c.ext.allocOk = true
    · by_cases hok : (genSpec c.cl c.n 0 []).2.1 = true
      · simp [runFnB, Gen.Body.boxedGenerate, body_exec, List.range_eq_range', hsz, hal, ha, hok, hlen hok, bO_full]
      · simp [runFnB, runDropOn, Gen.Body.boxedGenerate, Gen.Body.deallocGuardDrop, body_exec, List.range_eq_range', hsz, hal, ha,
          hok, hb, GA.IterOwn.panics]
    · simpa [hsz, hal] using boxedGenerate_allocFail c hsz (by simpa using hal) selfO

/-- **Boxed `generate`, whole body.**  For every length, element layout, generator (returning or
    panicking at any call) and allocator outcome: the allocator events, the element events and the
    result of interpreting the regenerated body (with the regenerated `Drop for DeallocOnDrop` and
    `Drop for IntrusiveArrayBuilder` run while unwinding, builder first) are those of
    `GA.Heap.boxedGenerate` — up to the later drop of the returned `Box`, which is `alloc`'s. -/
theorem boxedGenerate_body (c : Ctx) (hn : c.n < word) (hb : c.bad = none) (selfO : O) :
    let r := runFnB c Gen.Body.intrusiveDrop.body Gen.Body.deallocGuardDrop.body Gen.Body.boxedGenerate []
      ⟨selfO, ⟨[], 0, 0, 0, []⟩, false, 0, false, 0, false, {}⟩
    let m := GA.Heap.boxedGenerate c.ext.esz c.ext.ealign c.n c.cl c.ext.allocOk
    match r.2.1 with
    | .ret (.boxed blk out) =>
      blk = (if c.n * c.ext.esz = 0 then none else some 1) ∧
      m.res = .ok out ∧ m.etrace = r.1 ++ out.map .drop ∧
      m.atrace = r.2.2.ext.atrace.map toH ++
        (if c.n * c.ext.esz = 0 then [] else [.dealloc 1 (c.n * c.ext.esz) c.ext.ealign])
    | .panicked =>
      m.res = (if r.2.2.ext.aborted then .aborted else .panicked) ∧ m.etrace = r.1 ∧ m.atrace = r.2.2.ext.atrace.map toH
    | _ => False := by
  have h := boxedGenerate_run c hn hb selfO
  simp only [GA.Heap.boxedGenerate, ga_bridge, GA.Bridge.HeapGen.boxedNullChecked_eq, GA.Bridge.HeapGen.boxedDanglingAligned_eq,
    GA.Bridge.HeapGen.boxedDeallocGuard_eq, Gen.Alloc.boxedNoAlloc, own_genLoop_eq]
  -- zero-sized or not, allocation succeeded or not, every call returned or not: in each case `h` gives
  -- the four components of the run, and the model computes
  by_cases hsz : c.n * c.ext.esz = 0 <;> by_cases hal : c.ext.allocOk = true <;>
    by_cases hok : (genSpec c.cl c.n 0 []).2.1 = true
  all_goals
    simp only [hsz, hal, hok, if_true, if_false, Bool.false_eq_true, Prod.mk.injEq] at h
    obtain ⟨h1, h2, h3, h4⟩ := h
    simp [h1, h2, h3, h4, hsz, hal, hok, toH]

end GA.Bridge.BodyBoxed
