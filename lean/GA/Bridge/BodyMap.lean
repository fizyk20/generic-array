import GA.Bridge.BodyBuilder
import GA.Lemmas.Ops
/-!
Refinement obligation for the whole body of `FunctionalSequence::map` on an owned array
(src/lib.rs) against `GA.Ops.mapOp .owned`.
-/
namespace GA.Bridge.BodyCollect
open GA.Body GA.Own GA.Bridge.Body GA.Bridge.BodyBuilder

/-- the calls `f(x_j), f(x_{j+1}), …`: events, whether all returned, the results written so far -/
def mapSpec (f : Nat → Option Nat) : List Nat → Nat → List Nat → List Ev × Bool × List Nat
  | [], _, out => ([], true, out)
  | x :: rest, j, out =>
    match f j with
    | some y =>
      let r := mapSpec f rest (j + 1) (out ++ [y])
      (.give j x :: .take j y :: r.1, r.2)
    | none => ([.give j x, .panic j], false, out)

theorem mapSpec_eq (f : Nat → Option Nat) : ∀ (xs : List Nat) (j : Nat) (out : List Nat),
    mapSpec f xs j out = closureSpec (fun j x => [.give j x]) f xs j out
  | [], _, _ => rfl
  | x :: rest, j, out => by
    simp only [mapSpec, closureSpec, mapSpec_eq f rest]
    rfl

theorem own_mapLoop_eq (f : Nat → Option Nat) (xs : List Nat) :
    ∀ (rem j : Nat) (out : List Nat), j + rem ≤ xs.length →
      Own.fillLoop true true (mapSrc (.consumer Gen.Lib.mapPosNew Gen.Lib.mapAdvBeforeCall) f) rem ⟨xs, j, j⟩ out =
        (if (mapSpec f ((xs.drop j).take rem) j out).2.1 then
           ((mapSpec f ((xs.drop j).take rem) j out).1,
             FillRes.full (mapSpec f ((xs.drop j).take rem) j out).2.2 ⟨xs, j + rem, j + rem⟩)
         else
           ((mapSpec f ((xs.drop j).take rem) j out).1 ++ (mapSpec f ((xs.drop j).take rem) j out).2.2.map .drop ++
              (xs.drop (j + ((mapSpec f ((xs.drop j).take rem) j out).2.2.length - out.length) + 1)).map .drop,
             FillRes.panicked)) := by
  simp only [mapSpec_eq]
  exact own_calls_eq (mapSrc (.consumer Gen.Lib.mapPosNew Gen.Lib.mapAdvBeforeCall) f) (fun j => ⟨xs, j, j⟩) _ f xs fun j h => by
    cases hf : f j <;>
      simp [mapSrc, List.getElem?_eq_getElem h, hf, Side.after, ga_bridge, Bridge.Lib.mapPosNew_eq, arg, Side.owns]

/-- machine state while `map` runs: `outL` results written, `outL.length + extra` source elements consumed -/
def mst (xs outL : List Nat) (rem : Nat) (extra : Nat) (fg : Bool) : St :=
  ⟨⟨xs, 0, 0, outL.length + extra, []⟩, ⟨outL ++ List.replicate rem 0, 0, 0, outL.length, List.range' outL.length rem⟩,
    true, outL.length + extra, fg, outL.length + extra, false, {}⟩

theorem mst_eq (xs outL : List Nat) (rem e : Nat) (fg : Bool) :
    mst xs outL rem e fg =
      ⟨⟨xs, 0, 0, outL.length + e, []⟩, bO outL rem, true, outL.length + e, fg, outL.length + e, false, {}⟩ := rfl

/-- the closure of the first `fillMapS` of a function body -/
def cloOf : S → S
  | .set _ _ _ k => cloOf k
  | .ite _ _ e => cloOf e
  | .newBuilder k => cloOf k
  | .fillMapS _ _ cl _ _ => cl
  | _ => .opaque 0

/-- the loop of `map`: the closure reads a slot of the consumed array, advances the consumer and
    calls `f`; `mst` are its states -/
theorem gaMap_closureLoop (c : Ctx) (xs : List Nat) (hw : xs.length < word) (fg : Bool) :
    ClosureLoop c .self .self (fun p _ => loopBody c (cloOf Gen.Body.gaMap.body) [] p)
      (fillBody c (loopBodyOf Gen.Body.gaMap.body) []) (fun j x => [.give j x]) xs (fun o r e => mst xs o r e fg) where
  out _ _ _ := rfl
  polls _ _ _ := rfl
  len _ _ _ := by simp [mst, St.obj]
  pushes y outL rem s ho k f p o e hw := by
    simp [fillBody, loopBodyOf, Gen.Body.gaMap, body_exec, St.obj, St.putObj, bO, hw, repl_set0, erase_fresh]
  round o r h := by
    have hw1 : o.length + 1 < word := by omega
    cases hc : c.cl o.length <;>
      simp [loopBody, cloOf, Gen.Body.gaMap, body_exec, St.obj, St.putObj, mst, bO, h, hw1, hc]

theorem map_loop_body (c : Ctx) (xs : List Nat) (fg : Bool) :
    ∀ (rem : Nat) (outL : List Nat), outL.length + rem ≤ xs.length → xs.length < word →
      mapLoop .self (fun q s => exec c (cloOf Gen.Body.gaMap.body) (([] : List V).take 0 ++ [q]) s)
          (fun d v s => exec c (loopBodyOf Gen.Body.gaMap.body) ([] ++ [d, v]) s)
          ((List.range' outL.length rem).map (V.slot .out)) (mst xs outL rem 0 fg)
        = ((mapSpec c.cl ((xs.drop outL.length).take rem) outL.length outL).1,
           (if (mapSpec c.cl ((xs.drop outL.length).take rem) outL.length outL).2.1 then R.ret .unit else R.panicked),
           mst xs (mapSpec c.cl ((xs.drop outL.length).take rem) outL.length outL).2.2
             (outL.length + rem - (mapSpec c.cl ((xs.drop outL.length).take rem) outL.length outL).2.2.length)
             (if (mapSpec c.cl ((xs.drop outL.length).take rem) outL.length outL).2.1 then 0 else 1) fg) := by
  intro rem outL h hw
  simp only [mapSpec_eq]
  exact mapLoop_calls (gaMap_closureLoop c xs hw fg) hw rem outL h

/-- **`FunctionalSequence::map` on an owned array, whole body** — `ArrayConsumer::new`,
    `iter_position`, `FromIterator::from_iter`, `try_from_iter`, `IntrusiveArrayBuilder::{new, extend,
    is_full, finish}` all inlined from their current source, the `Map` adaptor's closure included:
    for every array and every mapping function (returning or panicking at any call) the
    interpretation produces exactly the events and the result of the ownership model's `mapOp`. -/
theorem gaMap_body (xs : List Nat) (hw : xs.length < word) (c : Ctx) (hn : c.n = xs.length) (hb : c.bad = none) (p0 : Nat) :
    let r := runFn2 c Gen.Body.consumerDrop.body Gen.Body.intrusiveDrop.body Gen.Body.gaMap []
      ⟨⟨xs, 0, 0, p0, []⟩, ⟨[], 0, 0, 0, []⟩, false, 0, false, 0, false, {}⟩
    (r.1, resOf r.2.1) = ((GA.Ops.mapOp .owned c.cl xs).1, some (GA.Ops.mapOp .owned c.cl xs).2) := by
  have hl := mapLoop_calls (gaMap_closureLoop c xs hw false) hw xs.length [] (by simp)
  have hlen := closureSpec_len (fun j x => [.give j x]) c.cl xs 0 []
  have hm := own_mapLoop_eq c.cl xs xs.length 0 [] (by omega)
  have hrej : hintReject canonFrags (xs.length, some xs.length) xs.length = false := by simp [hintReject, canonFrags]
  simp only [mapSpec_eq, List.drop_zero, List.take_length, List.length_nil, Nat.zero_add, Nat.sub_zero, cloOf, loopBodyOf,
    Gen.Body.gaMap, mst_eq] at hl hm hlen
  simp only [GA.Ops.mapOp, GA.Ops.libFrags_eq, Own.fromIter, tryFromIter_canon, hrej, Consumer.ofList, hm]
  generalize closureSpec (fun j x => [Ev.give j x]) c.cl xs 0 [] = q at hl hlen
  obtain ⟨tr, ok, out⟩ := q
  obtain ⟨-, hfull, hpart⟩ := hlen
  cases ok
  · have hlt : out.length + 1 ≤ xs.length := hpart rfl
    simp [runFn2, runDropOn, Gen.Body.gaMap, body_exec, St.obj, St.putObj, List.range_eq_range', positions, hn, hl, resOf, hb,
      GA.IterOwn.panics, hlt]
  · have hlen : out.length = xs.length := hfull rfl
    simp [runFn2, runDropOn, Gen.Body.gaMap, body_exec, St.obj, St.putObj, List.range_eq_range', positions, hn, hl, hlen, resOf,
      bO_full, mapSrc, Side.dropEv, Consumer.dropEv, hb, GA.IterOwn.panics]

end GA.Bridge.BodyCollect
