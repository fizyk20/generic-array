import GA.Bridge.BodyMap
/-!
Refinement obligation for the whole body of `Clone for GenericArray` (src/impls.rs):
`self.map(Clone::clone)` on `&self` resolves to the trait-default `FunctionalSequence::map`
(src/functional.rs) at `Self = &GenericArray`, i.e. `FromIterator::from_iter(self.into_iter().map(f))`
with `(&GenericArray)::into_iter = self.as_slice().iter()` (src/lib.rs) — all inlined from their
current source — against `GA.Ops.cloneOp` (= `mapOp .ref`).
-/
namespace GA.Bridge.BodyClone
open GA.Body GA.Own GA.Bridge.Body GA.Bridge.BodyBuilder GA.Bridge.BodyCollect

/-- the loop of `clone`: the closure calls `T::clone` on a slot of the source array, which is only read -/
theorem gaClone_closureLoop (c : Ctx) (xs : List Nat) (p0 : Nat) :
    ClosureLoop c .self .self (fun p _ => loopBody c (cloOf Gen.Body.gaClone.body) [] p)
      (fillBody c (loopBodyOf Gen.Body.gaClone.body) []) (fun j x => [.lend j x]) xs
      (fun o r e => ⟨⟨xs, 0, 0, p0, []⟩, bO o r, true, o.length + e, false, o.length + e, false, {}⟩) where
  out _ _ _ := rfl
  polls _ _ _ := rfl
  len _ _ _ := by simp [St.obj]
  pushes y outL rem s ho k f p o e hw := by
    simp [fillBody, loopBodyOf, Gen.Body.gaClone, body_exec, St.obj, St.putObj, bO, hw, repl_set0, erase_fresh]
  round o r h := by
    cases hc : c.cl o.length <;> simp [loopBody, cloOf, Gen.Body.gaClone, body_exec, St.obj, h, hc]

/-- **`Clone for GenericArray`, whole body** — `self.map(Clone::clone)` through the trait-default
    `map`, `(&GenericArray)::into_iter`, `from_iter`, `try_from_iter` and the builder, all inlined:
    for every array and every `T::clone` (returning or panicking at any call) the interpretation
    produces exactly the events and the result of the ownership model's `cloneOp`; the source array
    is only read, so nothing of it is dropped on any path. -/
theorem gaClone_body (xs : List Nat) (hw : xs.length < word) (c : Ctx) (hn : c.n = xs.length) (hb : c.bad = none) (p0 : Nat) :
    let r := runFn c Gen.Body.intrusiveDrop.body Gen.Body.gaClone []
      ⟨⟨xs, 0, 0, p0, []⟩, ⟨[], 0, 0, 0, []⟩, false, 0, false, 0, false, {}⟩
    (r.1, resOf r.2.1) = ((GA.Ops.cloneOp c.cl xs).1, some (GA.Ops.cloneOp c.cl xs).2) := by
  have hl := mapLoop_calls (gaClone_closureLoop c xs p0) hw xs.length [] (by simp)
  have hlen := closureSpec_len (fun j x => [Ev.lend j x]) c.cl xs 0 []
  have hm := own_calls_eq (mapSrc .borrowed c.cl) (fun j => ⟨xs, j, j⟩) (fun j x => [.lend j x]) c.cl xs
    (fun j h => by
      cases hf : c.cl j <;> simp [mapSrc, List.getElem?_eq_getElem h, hf, Side.after, arg, Side.owns])
    xs.length 0 [] (by omega)
  have hrej : hintReject canonFrags (xs.length, some xs.length) xs.length = false := by simp [hintReject, canonFrags]
  simp only [List.drop_zero, List.take_length, List.length_nil, Nat.zero_add, cloOf, loopBodyOf, Gen.Body.gaClone] at hl hm hlen
  simp only [GA.Ops.cloneOp, GA.Ops.mapOp, GA.Ops.libFrags_eq, Own.fromIter, tryFromIter_canon, hrej, Consumer.ofList, hm]
  generalize closureSpec (fun j x => [Ev.lend j x]) c.cl xs 0 [] = q at hl hlen
  obtain ⟨tr, ok, out⟩ := q
  obtain ⟨-, hfull, hpart⟩ := hlen
  cases ok
  · simp [runFn, runDropOn, Gen.Body.gaClone, body_exec, List.range_eq_range', positions, hn, hl, resOf, hb, GA.IterOwn.panics,
      mapSrc, Side.dropEv]
  · have hlen : out.length = xs.length := hfull rfl
    simp [runFn, Gen.Body.gaClone, body_exec, St.obj, List.range_eq_range', positions, hn, hl, hlen, resOf, bO_full, mapSrc,
      Side.dropEv]

end GA.Bridge.BodyClone
