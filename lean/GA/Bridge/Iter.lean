import GA.Gen.Iter
import GA.Lemmas.Tac
import GA.Lemmas.Attr
/-! Bridge obligations for `src/iter.rs`: every regenerated fragment equals its canonical reading. -/
namespace GA.Bridge.Iter
open GA.Gen.Iter

@[ga_bridge] theorem len_eq (i b : Nat) : len i b = b - i := by bridge_nat [len]
@[ga_bridge] theorem nextCond_eq (i b : Nat) : nextCond i b = decide (i < b) := by
  bridge_bool [nextCond]
@[ga_bridge] theorem nextRead_eq (i b : Nat) : nextRead i b = i := by bridge_nat [nextRead]
@[ga_bridge] theorem nextAdv_eq (i : Nat) : nextAdv i = i + 1 := by bridge_nat [nextAdv]
@[ga_bridge] theorem nextReadBeforeAdv_eq : nextReadBeforeAdv = true := by bridge_bool [nextReadBeforeAdv]
@[ga_bridge] theorem nextBackCond_eq (i b : Nat) : nextBackCond i b = decide (i < b) := by
  bridge_bool [nextBackCond]
@[ga_bridge] theorem nextBackAdv_eq (b : Nat) : nextBackAdv b = b - 1 := by bridge_nat [nextBackAdv]
@[ga_bridge] theorem nextBackRead_eq (i b : Nat) : nextBackRead i b = b := by bridge_nat [nextBackRead]
@[ga_bridge] theorem nextBackDecBeforeRead_eq : nextBackDecBeforeRead = true := by bridge_bool [nextBackDecBeforeRead]
@[ga_bridge] theorem nthNext_eq (i b n : Nat) : nthNext i b n = i + min n (b - i) := by
  bridge_nat [nthNext, len]
@[ga_bridge] theorem nthDropLo_eq (i b n : Nat) : nthDropLo i b n = i := by bridge_nat [nthDropLo]
@[ga_bridge] theorem nthDropHi_eq (i b n : Nat) : nthDropHi i b n = i + min n (b - i) := by
  bridge_nat [nthDropHi]
@[ga_bridge] theorem nthBackNext_eq (i b n : Nat) : nthBackNext i b n = b - min n (b - i) := by
  bridge_nat [nthBackNext, len]
@[ga_bridge] theorem nthBackDropLo_eq (i b n : Nat) : nthBackDropLo i b n = b - min n (b - i) := by
  bridge_nat [nthBackDropLo]
@[ga_bridge] theorem nthBackDropHi_eq (i b n : Nat) : nthBackDropHi i b n = b := by bridge_nat [nthBackDropHi]
@[ga_bridge] theorem sliceLo_eq (i b : Nat) : sliceLo i b = i := by bridge_nat [sliceLo]
@[ga_bridge] theorem sliceHi_eq (i b : Nat) : sliceHi i b = b := by bridge_nat [sliceHi]
@[ga_bridge] theorem sliceMutLo_eq (i b : Nat) : sliceMutLo i b = i := by bridge_nat [sliceMutLo]
@[ga_bridge] theorem sliceMutHi_eq (i b : Nat) : sliceMutHi i b = b := by bridge_nat [sliceMutHi]
@[ga_bridge] theorem foldLo_eq (i b : Nat) : foldLo i b = i := by bridge_nat [foldLo]
@[ga_bridge] theorem foldHi_eq (i b : Nat) : foldHi i b = b := by bridge_nat [foldHi]
@[ga_bridge] theorem rfoldLo_eq (i b : Nat) : rfoldLo i b = i := by bridge_nat [rfoldLo]
@[ga_bridge] theorem rfoldHi_eq (i b : Nat) : rfoldHi i b = b := by bridge_nat [rfoldHi]
@[ga_bridge] theorem initFront_eq (n : Nat) : initFront n = 0 := by bridge_nat [initFront]
@[ga_bridge] theorem initBack_eq (n : Nat) : initBack n = n := by bridge_nat [initBack]
@[ga_bridge] theorem countIsLen_eq : countIsLen = true := by bridge_bool [countIsLen]
@[ga_bridge] theorem lastIsNextBack_eq : lastIsNextBack = true := by bridge_bool [lastIsNextBack]
@[ga_bridge] theorem sizeHintExact_eq : sizeHintExact = true := by bridge_bool [sizeHintExact]
@[ga_bridge] theorem nthThenNext_eq : nthThenNext = true := by bridge_bool [nthThenNext]
@[ga_bridge] theorem nthBackThenNextBack_eq : nthBackThenNextBack = true := by bridge_bool [nthBackThenNextBack]
@[ga_bridge] theorem foldAdv_eq (i : Nat) : foldAdv i = i + 1 := by bridge_nat [foldAdv]
@[ga_bridge] theorem rfoldAdv_eq (b : Nat) : rfoldAdv b = b - 1 := by bridge_nat [rfoldAdv]
@[ga_bridge] theorem foldAdvBeforeCall_eq : foldAdvBeforeCall = true := by bridge_bool [foldAdvBeforeCall]
@[ga_bridge] theorem foldReadBeforeAdv_eq : foldReadBeforeAdv = true := by bridge_bool [foldReadBeforeAdv]
@[ga_bridge] theorem rfoldAdvBeforeCall_eq : rfoldAdvBeforeCall = true := by bridge_bool [rfoldAdvBeforeCall]
@[ga_bridge] theorem rfoldReadBeforeAdv_eq : rfoldReadBeforeAdv = true := by bridge_bool [rfoldReadBeforeAdv]
@[ga_bridge] theorem foldForgets_eq : foldForgets = true := by bridge_bool [foldForgets]
@[ga_bridge] theorem rfoldForgets_eq : rfoldForgets = true := by bridge_bool [rfoldForgets]
@[ga_bridge] theorem cloneWriteBeforeCount_eq : cloneWriteBeforeCount = true := by bridge_bool [cloneWriteBeforeCount]
@[ga_bridge] theorem dropIsLiveSlice_eq : dropIsLiveSlice = true := by bridge_bool [dropIsLiveSlice]

/-! no-underflow side conditions of every extracted `-` hold under the representation invariant -/
theorem lenOk_of (i b : Nat) (h : i ≤ b) : lenOk i b = true := by
  simp [lenOk]; omega
theorem nextBackAdvOk_of (i b : Nat) (h : i < b) : nextBackAdvOk b = true := by
  simp [nextBackAdvOk]; omega
theorem nthNextOk_of (i b n : Nat) (h : i ≤ b) : nthNextOk i b n = true := by
  simp [nthNextOk]; omega
theorem nthBackNextOk_of (i b n : Nat) (h : i ≤ b) : nthBackNextOk i b n = true := by
  simp [nthBackNextOk]; omega

/-! no `+` of the index arithmetic wraps around the machine word, for *every* argument `n`
    (also `usize::MAX`), as long as the array length itself fits (`b ≤ N < 2^64`) -/
theorem nthNextNoOvf_of (i b n : Nat) (h : i ≤ b) (hb : b < 18446744073709551616) : nthNextNoOvf i b n = true := by
  simp only [nthNextNoOvf, decide_eq_true_eq]; omega
theorem nthDropHiNoOvf_of (i b n : Nat) (h : i ≤ b) (hb : b < 18446744073709551616) : nthDropHiNoOvf i b n = true := by
  simp only [nthDropHiNoOvf, decide_eq_true_eq]; omega
theorem nextAdvNoOvf_of (i b : Nat) (h : i < b) (hb : b < 18446744073709551616) : nextAdvNoOvf i = true := by
  simp only [nextAdvNoOvf, decide_eq_true_eq]; omega
theorem foldAdvNoOvf_of (i b : Nat) (h : i < b) (hb : b < 18446744073709551616) : foldAdvNoOvf i = true := by
  simp only [foldAdvNoOvf, decide_eq_true_eq]; omega

end GA.Bridge.Iter
