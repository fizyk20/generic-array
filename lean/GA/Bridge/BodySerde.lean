import GA.Bridge.BodyCollect
import GA.Bridge.Serde
import GA.Model.Serde
/-!
Refinement obligation for the whole body of `GAVisitor::visit_seq` (src/impl_serde.rs) — the
up-front `size_hint` test, `uninit` + `IntrusiveArrayBuilder::new`, `iter_position`, the fill loop
`for dst in build_iter { match seq.next_element()? { Some(el) => …, None => break } }`, the fullness
test, the surplus probe `next_element::<Dummy>()?` guarded by `size_hint() != Some(0)`, `finish`,
`array_assume_init`, and the three error returns — against the model `GA.Serde.visitSeq`.
-/
namespace GA.Bridge.BodySerde
open GA.Body GA.Own GA.Bridge.Body GA.Bridge.BodyBuilder GA.Bridge.BodyCollect
open GA.Serde (Step)

/-! A deserializer script as the scripted source the collect lemmas are stated for (`toSc`). -/

def stepAns : Step → Option Nat
  | .elem x => some x
  | _ => none

/-- index (as a call number) of the first `next_element` call that returns `Err` -/
def firstFail : List Step → Nat → Option Nat
  | [], _ => none
  | .fail :: _, k => some k
  | _ :: t, k => firstFail t (k + 1)

def toSc (s : GA.Serde.Script) : Script := ⟨s.steps.map stepAns, s.k, firstFail s.steps s.k⟩

def sadv (s : GA.Serde.Script) : GA.Serde.Script := { s with steps := s.steps.tail, k := s.k + 1 }

theorem firstFail_ge : ∀ (l : List Step) (k m : Nat), firstFail l k = some m → k ≤ m
  | [], _, _, h => by simp [firstFail] at h
  | .fail :: _, k, m, h => by simp [firstFail] at h; omega
  | .elem _ :: t, k, m, h => by
    have := firstFail_ge t (k + 1) m (by simpa [firstFail] using h); omega
  | .none :: t, k, m, h => by
    have := firstFail_ge t (k + 1) m (by simpa [firstFail] using h); omega

theorem firstFail_ne (l : List Step) (k : Nat) : firstFail l (k + 1) ≠ some k := by
  intro h; have := firstFail_ge l (k + 1) k h; omega

theorem pollOf_toSc (s : GA.Serde.Script) :
    pollOf (toSc s) 0 =
      (match s.steps with
       | .elem x :: _ => Poll.yield x
       | .fail :: _ => Poll.panic
       | _ => Poll.done) := by
  unfold pollOf toSc
  cases hs : s.steps with
  | nil => simp [firstFail]
  | cons a t =>
    cases a with
    | elem x => simp [firstFail, firstFail_ne, stepAns]
    | fail => simp [firstFail]
    | none => simp [firstFail, firstFail_ne, stepAns]

theorem toSc_sadv_elem (s : GA.Serde.Script) (x : Nat) (t : List Step) (hs : s.steps = .elem x :: t) :
    toSc (sadv s) = advance (toSc s) := by
  simp [toSc, sadv, advance, hs, firstFail]

/-- `own_fillLoop_eq` for the deserializer script; `s'` is the state the model's loop ends in -/
theorem serde_fill : ∀ (rem : Nat) (s : GA.Serde.Script) (out : List Nat),
    ∃ s' : GA.Serde.Script,
      Own.fillLoop true true GA.Serde.src rem s out =
        (match (fillSpec rem (toSc s) out).2.1 with
         | 0 => ((fillSpec rem (toSc s) out).1, FillRes.full (fillSpec rem (toSc s) out).2.2.1 s')
         | 1 => ((fillSpec rem (toSc s) out).1, FillRes.short (fillSpec rem (toSc s) out).2.2.1 s')
         | _ => ((fillSpec rem (toSc s) out).1 ++ (fillSpec rem (toSc s) out).2.2.1.map .drop, FillRes.panicked)) ∧
      s'.hintEnd = s.hintEnd ∧
      ((fillSpec rem (toSc s) out).2.1 = 0 → toSc s' = (fillSpec rem (toSc s) out).2.2.2)
  | 0, s, out => ⟨s, by simp [Own.fillLoop, fillSpec]⟩
  | rem + 1, s, out => by
    have hp := pollOf_toSc s
    have hk0 : (toSc s).k = s.k := rfl
    cases hs : s.steps with
    | nil =>
      simp only [hs] at hp
      refine ⟨sadv s, ?_, rfl, ?_⟩
      · simp [Own.fillLoop, GA.Serde.src, hs, fillSpec, hp, sadv, hk0]
      · simp [fillSpec, hp]
    | cons a t =>
      cases a with
      | none =>
        simp only [hs] at hp
        refine ⟨sadv s, ?_, rfl, ?_⟩
        · simp [Own.fillLoop, GA.Serde.src, hs, fillSpec, hp, sadv, hk0]
        · simp [fillSpec, hp]
      | fail =>
        simp only [hs] at hp
        refine ⟨sadv s, ?_, rfl, ?_⟩
        · simp [Own.fillLoop, GA.Serde.src, hs, fillSpec, hp, builderDrop, hk0]
        · simp [fillSpec, hp]
      | elem x =>
        simp only [hs] at hp
        obtain ⟨s', h1, h2, h3⟩ := serde_fill rem (sadv s) (out ++ [x])
        rw [toSc_sadv_elem s x t hs] at h1 h3
        refine ⟨s', ?_, by simpa [sadv] using h2, ?_⟩
        · have hstep : GA.Serde.src.step s = .yield [.poll s.k, .take s.k x] x (sadv s) := by
            simp [GA.Serde.src, hs, sadv]
          simp only [Own.fillLoop, hstep, fillSpec, hp, h1]
          have hk : (toSc s).k = s.k := rfl
          generalize fillSpec rem (advance (toSc s)) (out ++ [x]) = q
          obtain ⟨tr, tag, o, sc'⟩ := q
          rcases tag with _ | _ | tag <;> simp [hk]
        · simpa [fillSpec, hp] using h3

/-- the body of the fill loop inside the regenerated `visit_seq` -/
def sbodyOf : S → S
  | .ite _ _ e => sbodyOf e
  | .newBuilder k => sbodyOf k
  | .seqFill b _ => b
  | _ => .opaque 0

theorem visitSeq_pushes (c : Ctx) : Pushes (fillBody c (sbodyOf Gen.Body.visitSeq.body) []) := by
  intro y outL rem s ho k f p o e hw
  simp [fillBody, sbodyOf, Gen.Body.visitSeq, body_exec, St.obj, St.putObj, bO, hw, repl_set0, erase_fresh]

theorem seq_loop_body (c : Ctx) (selfO : O) (calls : Nat) (fg : Bool) :
    ∀ (rem : Nat) (s : Script) (outL : List Nat), (∀ j, c.src (s.k + j) = pollOf s j) → outL.length + rem < word →
      seqLoop c (fun d v st => exec c (sbodyOf Gen.Body.visitSeq.body) ([] ++ [d, v]) st)
          ((List.range' outL.length rem).map (V.slot .out)) (bst selfO outL rem calls fg s.k)
        = ((fillSpec rem s outL).1, (if (fillSpec rem s outL).2.1 = 2 then R.ret .err else R.ret .unit),
            bst selfO (fillSpec rem s outL).2.2.1 (outL.length + rem - (fillSpec rem s outL).2.2.1.length) calls fg
              (fillSpec rem s outL).2.2.2.k) :=
  pollLoop_fill c (seqLoop c) (.ret .err) (fun _ _ => rfl) (fun _ _ _ _ => rfl) _ (visitSeq_pushes c) selfO calls fg

def vresOf : R → Option GA.Serde.VRes
  | .ret (.ok (.arr l)) => some (.ok l)
  | .ret .err => some .err
  | _ => none

/-- the part of `visit_seq` after the up-front hint test -/
def vcoreOf : S → S
  | .ite _ _ k => k
  | _ => .opaque 0

theorem probe_facts (s' : GA.Serde.Script) :
    (GA.Serde.probeRejects s'.steps = (match pollOf (toSc s') 0 with | .done => false | _ => true)) ∧
    (GA.Serde.probeEv s'.steps s'.k =
      (match pollOf (toSc s') 0 with | .panic => [Ev.poll s'.k, Ev.panic s'.k] | _ => [Ev.poll s'.k])) := by
  rw [pollOf_toSc]
  cases hs : s'.steps with
  | nil => simp [GA.Serde.probeRejects, GA.Serde.probeEv]
  | cons a t => cases a <;> simp [GA.Serde.probeRejects, GA.Serde.probeEv]

theorem visit_core (c : Ctx) (hn : c.n < word) (s : GA.Serde.Script)
    (hsrc : ∀ j, c.src (s.k + j) = pollOf (toSc s) j) (hb : c.bad = none) (he : c.ext.shintEnd = s.hintEnd) (selfO : O) :
    let r := runFn c Gen.Body.intrusiveDrop.body ⟨.ref, vcoreOf Gen.Body.visitSeq.body⟩ []
      ⟨selfO, ⟨[], 0, 0, 0, []⟩, false, 0, false, s.k, false, {}⟩
    let m := match Own.fillLoop GA.Gen.Serde.writeBeforeCount true GA.Serde.src c.n s [] with
      | (tr, .panicked) => (tr, GA.Serde.VRes.err)
      | (tr, .short out _) => GA.Serde.tailShort c.n tr out
      | (tr, .full out s') => GA.Serde.tailFull c.n tr out s'
    (r.1, vresOf r.2.1) = (m.1, some m.2) := by
  have hl := pollLoop_fill c (seqLoop c) (.ret .err) (fun _ _ => rfl) (fun _ _ _ _ => rfl) _ (visitSeq_pushes c) selfO 0 false
    c.n (toSc s) [] hsrc (by simpa using hn)
  have hlen := fillSpec_len c.n (toSc s) []
  have hs0 := fillSpec_src c c.n (toSc s) [] hsrc 0
  obtain ⟨s', hfill, hhe, hsc⟩ := serde_fill c.n s []
  rw [GA.Bridge.Serde.writeBeforeCount_eq, hfill]
  generalize fillSpec c.n (toSc s) [] = q at hl hlen hs0 hsc
  obtain ⟨tr, tag, out, sc'⟩ := q
  simp only [sbodyOf, Gen.Body.visitSeq, List.length_nil, Nat.zero_add, Nat.add_zero, bst_eq, show (toSc s).k = s.k from rfl]
    at hl hlen hs0 hsc
  obtain ⟨hfull, hshort, htag⟩ := hlen
  rcases hx : exec c (vcoreOf Gen.Body.visitSeq.body) [] ⟨selfO, ⟨[], 0, 0, 0, []⟩, false, 0, false, s.k, false, {}⟩
    with ⟨tr', r', st''⟩
  have hrun := runFn_ref c hb _ _ _ _ _ _ hx
  simp only [vcoreOf, Gen.Body.visitSeq, exec_newBuilder, List.range_eq_range', bO_nil, exec_seqFill, bO_length,
    List.length_nil, Nat.zero_add, positions, Nat.sub_zero, hl] at hx
  rcases tag with _ | _ | tag
  · -- every slot written
    have hlen : out.length = c.n := hfull rfl
    obtain ⟨pr, pe⟩ := probe_facts s'
    have hk' : s'.k = sc'.k := by rw [← hsc rfl]; rfl
    rw [hsc rfl] at pr pe
    rw [hk'] at pe
    simp only [GA.Serde.tailFull, GA.Serde.probes, ga_bridge, hlen, decide_true, Bool.not_true, Bool.false_eq_true, if_false,
      Bool.true_and, hhe, pr, pe, hk']
    -- the surplus probe is skipped when the source's size hint has come down to `Some(0)`
    have hskip : ∀ st, eval c [] st (.shintAnd true (.eq (.shintVal true) (.num 0))) =
        some (.bool (decide (s.hintEnd = some 0))) := by
      intro st
      cases hh : s.hintEnd <;> simp [eval, natOf, boolOf, he, hh]
    by_cases hz : s.hintEnd = some 0
    · simp [body_exec, ↓hskip, St.obj, ← hlen, hz] at hx
      obtain ⟨rfl, rfl, rfl⟩ := hx
      rw [hrun (bO_within _ _) (by simp)]
      simp [body_exec, vresOf, bO_full, hz]
    · cases hp : pollOf sc' 0
      all_goals
        simp [body_exec, ↓hskip, St.obj, ← hlen, hs0, hp, hz] at hx
        obtain ⟨rfl, rfl, rfl⟩ := hx
        rw [hrun (bO_within _ _) (by simp)]
        simp [body_exec, vresOf, bO_full, GA.Iter.sliceOf, hz]
  · -- the source ended first
    have hne : ¬ out.length = c.n := by have := hshort (by omega); omega
    simp [body_exec, St.obj, hne] at hx
    obtain ⟨rfl, rfl, rfl⟩ := hx
    rw [hrun (bO_within _ _) (by simp)]
    simp [GA.Serde.tailShort, ga_bridge, hne, body_exec, vresOf]
  · -- an element failed to parse
    have ht : tag + 1 + 1 = 2 := Nat.le_antisymm htag (by omega)
    simp [body_exec, ht] at hx
    obtain ⟨rfl, rfl, rfl⟩ := hx
    rw [hrun (bO_within _ _) (by simp)]
    simp [body_exec, vresOf]

/-- **`visit_seq`, whole body.**  For every length below `2^64`, both `size_hint` answers and every
    deserializer script (elements, a parse error at any call, early end, surplus input),
    interpreting the regenerated body — `IntrusiveArrayBuilder::{new, iter_position, finish}`
    inlined from their current source, the builder's regenerated destructor run on every early
    return — produces exactly the events and the result of the model `GA.Serde.visitSeq`. -/
theorem visitSeq_body (n : Nat) (hn : n < word) (s : GA.Serde.Script) (c : Ctx) (hcn : c.n = n) (hb : c.bad = none)
    (hsrc : ∀ j, c.src (s.k + j) = pollOf (toSc s) j) (h0 : c.ext.shint0 = s.hint0) (he : c.ext.shintEnd = s.hintEnd)
    (selfO : O) :
    let r := runFn c Gen.Body.intrusiveDrop.body Gen.Body.visitSeq [] ⟨selfO, ⟨[], 0, 0, 0, []⟩, false, 0, false, s.k, false, {}⟩
    (r.1, vresOf r.2.1) = ((GA.Serde.visitSeq n s).1, some (GA.Serde.visitSeq n s).2) := by
  subst hcn
  have hc := visit_core c hn s hsrc hb he selfO
  have hpre : exec c Gen.Body.visitSeq.body [] ⟨selfO, ⟨[], 0, 0, 0, []⟩, false, 0, false, s.k, false, {}⟩ =
      if GA.Serde.hintRejects s.hint0 c.n then ([], .ret .err, ⟨selfO, ⟨[], 0, 0, 0, []⟩, false, 0, false, s.k, false, {}⟩)
      else exec c (vcoreOf Gen.Body.visitSeq.body) [] ⟨selfO, ⟨[], 0, 0, 0, []⟩, false, 0, false, s.k, false, {}⟩ := by
    cases hh : s.hint0 with
    | none => simp [Gen.Body.visitSeq, vcoreOf, exec_ite, eval, boolOf, h0, hh, GA.Serde.hintRejects]
    | some k =>
      by_cases hkn : k = c.n <;>
        simp [Gen.Body.visitSeq, vcoreOf, exec_ite, exec_done, eval, natOf, boolOf, h0, hh, hkn, GA.Serde.hintRejects, ga_bridge]
  unfold GA.Serde.visitSeq
  by_cases hrej : GA.Serde.hintRejects s.hint0 c.n = true
  · simp [runFn, hpre, hrej, show Gen.Body.visitSeq.recv = .ref from rfl, vresOf]
  · rw [runFn_congr (f := Gen.Body.visitSeq) (g := ⟨.ref, vcoreOf Gen.Body.visitSeq.body⟩) rfl (by rw [hpre, if_neg hrej]),
      if_neg hrej]
    exact hc

end GA.Bridge.BodySerde
