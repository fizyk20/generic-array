import GA.Bridge.BodyExec
import GA.Model.BodyIter
import GA.Model.Iter
import GA.Model.IterOwn
import GA.Lemmas.Iter
import GA.Lemmas.IterOwn
/-!
Refinement obligations of the whole-body tie: interpreting the regenerated body ASTs
(`GA.Gen.Body`, produced by `tools/bodyx.py` from the current source of `src/iter.rs` and
`src/internal.rs`) gives exactly the hand-written models that the property theorems are about.
-/
namespace GA.Bridge.Body
open GA.Body GA.Iter GA.Own
open GA.BodyIter (ofIter toIter)

def outR : IOut → R
  | .item (some x) => .ret (.some (.elem x))
  | .item none => .ret .none
  | .num n => .ret (.nat n)
  | .hint lo hi => .ret (.pair (.nat lo) (match hi with | some h => .some (.nat h) | none => .none))
  | .items l => .ret (.dbg l)
  | .unit => .ret .unit
  | .oob => .panicked
  | .ub => .ub

def quiet (n : Nat) : Ctx := ⟨n, none, fun _ => false, fun _ => none, fun _ => .done, (0, none), {}⟩

def resR : GA.IterOwn.NthRes → R
  | .item (some x) => .ret (.some (.elem x))
  | .item none => .ret .none
  | .panicked => .panicked
  | .ub => .ub

/-- the event recording that a returned element passes to the caller (the models log it, the
    interpreter returns it as the function's value) -/
def retGive : R → List Ev
  | .ret (.some (.elem x)) => [.give 0 x]
  | _ => []

theorem word_eq : word = 18446744073709551616 := rfl

/-! A method of the iterator writes only `index` / `index_back`: these two keep its states in the form
`ofIter _`. -/

@[body_exec] theorem ofIter_self (it : Iter) : (ofIter it).obj .self = ⟨it.slots, it.front, it.back, 0, []⟩ := rfl
@[body_exec high] theorem ofIter_putSelf (it : Iter) (s : List Nat) (i b : Nat) :
    (ofIter it).putObj .self ⟨s, i, b, 0, []⟩ = ofIter ⟨s, i, b⟩ := rfl

theorem next_body (it : Iter) (h : Inv it) (hw : it.slots.length < word) (c : Ctx) :
    runFn c Gen.Body.dropIter.body Gen.Body.next [] (ofIter it)
      = ([], outR (Iter.next it).1, ofIter (Iter.next it).2) := by
  obtain ⟨h1, h2⟩ := h
  refine runFn_of_exec ?_ rfl (.inl (by decide))
  by_cases hlt : it.front < it.back
  · have ⟨hb, ho⟩ : it.front < it.slots.length ∧ it.front + 1 < word := by omega
    simp [body_exec, Gen.Body.next, next_eq, readSlot, outR, hlt, hb, ho]
  · simp [body_exec, Gen.Body.next, next_eq, outR, hlt]

theorem nextBack_body (it : Iter) (h : Inv it) (c : Ctx) :
    runFn c Gen.Body.dropIter.body Gen.Body.nextBack [] (ofIter it)
      = ([], outR (Iter.nextBack it).1, ofIter (Iter.nextBack it).2) := by
  obtain ⟨h1, h2⟩ := h
  refine runFn_of_exec ?_ rfl (.inl (by decide))
  by_cases hlt : it.front < it.back
  · have ⟨hb, h1'⟩ : it.back - 1 < it.slots.length ∧ 1 ≤ it.back := by omega
    simp [body_exec, Gen.Body.nextBack, nextBack_eq, readSlot, outR, hlt, hb, h1']
  · simp [body_exec, Gen.Body.nextBack, nextBack_eq, outR, hlt]

theorem len_body (it : Iter) (h : Inv it) (c : Ctx) :
    runFn c Gen.Body.dropIter.body Gen.Body.len [] (ofIter it)
      = ([], outR (Iter.step it .len).1, ofIter it) := by
  refine runFn_of_exec ?_ rfl (.inl (by decide))
  simp [body_exec, Gen.Body.len, Iter.step, ga_bridge, Bridge.Iter.lenOk_of _ _ h.1, outR, h.1]

theorem sizeHint_body (it : Iter) (h : Inv it) (c : Ctx) :
    runFn c Gen.Body.dropIter.body Gen.Body.sizeHint [] (ofIter it)
      = ([], outR (Iter.step it .sizeHint).1, ofIter it) := by
  refine runFn_of_exec ?_ rfl (.inl (by decide))
  simp [body_exec, Gen.Body.sizeHint, Iter.step, ga_bridge, Bridge.Iter.lenOk_of _ _ h.1, outR, h.1]

theorem asSlice_body (it : Iter) (h : Inv it) (c : Ctx) :
    runFn c Gen.Body.dropIter.body Gen.Body.asSlice [] (ofIter it)
      = ([], .ret (.slice .self (Gen.Iter.sliceLo it.front it.back) (Gen.Iter.sliceHi it.front it.back)), ofIter it) := by
  refine runFn_of_exec ?_ rfl (.inl (by decide))
  simp [body_exec, Gen.Body.asSlice, ga_bridge, h.1, h.2]

theorem asMutSlice_body (it : Iter) (h : Inv it) (c : Ctx) :
    runFn c Gen.Body.dropIter.body Gen.Body.asMutSlice [] (ofIter it)
      = ([], .ret (.slice .self (Gen.Iter.sliceMutLo it.front it.back) (Gen.Iter.sliceMutHi it.front it.back)), ofIter it) := by
  refine runFn_of_exec ?_ rfl (.inl (by decide))
  simp [body_exec, Gen.Body.asMutSlice, ga_bridge, h.1, h.2]

theorem debug_body (it : Iter) (h : Inv it) (c : Ctx) :
    runFn c Gen.Body.dropIter.body Gen.Body.debugFmt [] (ofIter it)
      = ([], outR (Iter.step it .debug).1, ofIter it) := by
  refine runFn_of_exec ?_ rfl (.inl (by decide))
  simp [body_exec, Gen.Body.debugFmt, Iter.step, sliceOk_of_inv it h, asSlice_eq, abs, sliceOf, outR, h.1, h.2]

theorem runDropOn_ofIter (it : Iter) (h : Inv it) (c : Ctx) :
    runDropOn c Gen.Body.dropIter.body .self (ofIter it) = (GA.IterOwn.dropIter it,
      if GA.IterOwn.panics (asSlice it) c.bad then R.panicked else R.ret .unit) := by
  rw [GA.IterOwn.dropIter, asSlice_eq]
  simp only [runDropOn, dropIter_exec c (ofIter it) h.1 h.2 rfl]
  rfl

/-- `Drop for GenericArrayIter` -/
theorem drop_body (it : Iter) (h : Inv it) (c : Ctx) :
    let r := runFn c Gen.Body.dropIter.body Gen.Body.dropIter [] (ofIter it)
    (r.1, r.2.1) = (GA.IterOwn.dropIter it,
      if GA.IterOwn.panics (asSlice it) c.bad then R.panicked else R.ret .unit) := by
  simp only [runFn_of_exec (dropIter_exec c (ofIter it) h.1 h.2 rfl) rfl (.inl (by decide))]
  rfl

/-- `count(self)`: `len()`, then the iterator (owned by `count`) is dropped -/
theorem count_body (it : Iter) (h : Inv it) (c : Ctx) :
    let r := runFn c Gen.Body.dropIter.body Gen.Body.count [] (ofIter it)
    let m := GA.IterOwn.countD it c.bad
    (r.1, r.2.1) = (m.1, match m.2 with | .item (some k) => R.ret (.nat k) | .panicked => R.panicked | _ => R.ub) := by
  have he : exec c Gen.Body.count.body [] (ofIter it) = ([], .ret (.nat (it.back - it.front)), ofIter it) := by
    simp [body_exec, Gen.Body.count, h.1]
  simp only [runFn_owned he (by simp) rfl rfl rfl, runDropOn_ofIter it h c, GA.IterOwn.countD, Bridge.Iter.len_eq, List.nil_append]
  by_cases hp : GA.IterOwn.panics (asSlice it) c.bad <;> simp [hp]

theorem afterNext_item (pre : List Ev) (r : IOut × Iter) (o : Option Nat) (ho : r.1 = .item o) :
    GA.IterOwn.afterNext pre r = (pre ++ retGive (outR (.item o)), .item o, r.2) := by
  cases o <;> simp [GA.IterOwn.afterNext, ho, retGive, outR]

theorem resR_item (o : Option Nat) : resR (.item o) = outR (.item o) := by cases o <;> rfl

/-- `last(self)`: `next_back()`, then the iterator (owned by `last`) is dropped.  The model logs the
    hand-over of the element where `next_back()` returns, before that teardown (`retGive` first); in
    `nth` below it comes after the drops of the skipped elements (`retGive` last). -/
theorem last_body (it : Iter) (h : Inv it) (c : Ctx) :
    let r := runFn c Gen.Body.dropIter.body Gen.Body.last [] (ofIter it)
    let m := GA.IterOwn.lastD it c.bad
    (retGive r.2.1 ++ r.1, r.2.1) = (m.1, resR m.2) := by
  obtain ⟨ho, _, hi⟩ := nextBack_refines it h
  have he : exec c Gen.Body.last.body [] (ofIter it) = ([], outR (Iter.nextBack it).1, ofIter (Iter.nextBack it).2) := by
    by_cases hlt : it.front < it.back
    · have ⟨hb, h1'⟩ : it.back - 1 < it.slots.length ∧ 1 ≤ it.back := by have := h.2; omega
      simp [body_exec, Gen.Body.last, nextBack_eq, readSlot, outR, hlt, hb, h1']
    · simp [body_exec, Gen.Body.last, nextBack_eq, outR, hlt]
  obtain ⟨v, hv⟩ : ∃ v, outR (.item (abs it).getLast?) = .ret v := by cases (abs it).getLast? <;> exact ⟨_, rfl⟩
  rw [ho, hv] at he
  simp only [runFn_owned he (by simp) rfl rfl rfl, runDropOn_ofIter _ hi c, GA.IterOwn.lastD, afterNext_item [] _ _ ho, hv]
  by_cases hp : GA.IterOwn.panics (asSlice (Iter.nextBack it).2) c.bad
  · simp [hp, retGive, resR]
  · simp [hp, resR_item, hv]

theorem nth_body (it : Iter) (n : Nat) (h : Inv it) (hw : it.slots.length < word) (c : Ctx) :
    let r := runFn c Gen.Body.dropIter.body Gen.Body.nth [.nat n] (ofIter it)
    let m := GA.IterOwn.nthD it n c.bad
    (r.1 ++ retGive r.2.1, r.2.1, r.2.2) = (m.1, resR m.2.1, ofIter m.2.2) := by
  obtain ⟨h1, h2⟩ := h
  simp only [GA.IterOwn.nthD_eq it ⟨h1, h2⟩ n c.bad]
  have hk' : min n (it.back - it.front) ≤ it.back - it.front := Nat.min_le_right _ _
  -- `omega` would split on the `min` of `hk` in every call below
  generalize hk : min n (it.back - it.front) = k at hk'
  have ⟨hk2, hk3, hk4⟩ : it.front + k ≤ it.slots.length ∧ it.front + k < word ∧ it.front + k ≤ it.back := by
    clear hk; omega
  have hi : Inv ⟨it.slots, it.front + k, it.back⟩ := ⟨hk4, h2⟩
  have ho := (next_refines _ hi).1
  have he : exec c Gen.Body.nth.body [.nat n] (ofIter it) =
      if GA.IterOwn.panics (sliceOf it.slots it.front (it.front + k)) c.bad then
        ((sliceOf it.slots it.front (it.front + k)).map .drop, .panicked, ofIter ⟨it.slots, it.front + k, it.back⟩)
      else ((sliceOf it.slots it.front (it.front + k)).map .drop, outR (Iter.next ⟨it.slots, it.front + k, it.back⟩).1,
        ofIter (Iter.next ⟨it.slots, it.front + k, it.back⟩).2) := by
    by_cases hlt : it.front + k < it.back
    · have ⟨hb, ho'⟩ : it.front + k < it.slots.length ∧ it.front + k + 1 < word := by clear hk; omega
      simp [body_exec, Gen.Body.nth, next_eq, readSlot, outR, h1, hk, hk2, hk3, hlt, hb, ho']
    · simp [body_exec, Gen.Body.nth, next_eq, outR, h1, hk, hk2, hk3, hlt]
  by_cases hp : GA.IterOwn.panics (sliceOf it.slots it.front (it.front + k)) c.bad
  · rw [if_pos hp] at he
    simp [runFn_of_exec he rfl (.inl (by decide)), hp, retGive, resR]
  · rw [if_neg hp] at he
    simp [runFn_of_exec he rfl (.inl (by decide)), hp, afterNext_item _ _ _ ho, resR_item, ho]

theorem nthBack_body (it : Iter) (n : Nat) (h : Inv it) (c : Ctx) :
    let r := runFn c Gen.Body.dropIter.body Gen.Body.nthBack [.nat n] (ofIter it)
    let m := GA.IterOwn.nthBackD it n c.bad
    (r.1 ++ retGive r.2.1, r.2.1, r.2.2) = (m.1, resR m.2.1, ofIter m.2.2) := by
  obtain ⟨h1, h2⟩ := h
  simp only [GA.IterOwn.nthBackD_eq it ⟨h1, h2⟩ n c.bad]
  have hk' : min n (it.back - it.front) ≤ it.back - it.front := Nat.min_le_right _ _
  generalize hk : min n (it.back - it.front) = k at hk'
  have ⟨hk1, hi⟩ : k ≤ it.back ∧ it.front ≤ it.back - k ∧ it.back - k ≤ it.slots.length := by clear hk; omega
  have hi : Inv ⟨it.slots, it.front, it.back - k⟩ := hi
  have ho := (nextBack_refines _ hi).1
  have he : exec c Gen.Body.nthBack.body [.nat n] (ofIter it) =
      if GA.IterOwn.panics (sliceOf it.slots (it.back - k) it.back) c.bad then
        ((sliceOf it.slots (it.back - k) it.back).map .drop, .panicked, ofIter ⟨it.slots, it.front, it.back - k⟩)
      else ((sliceOf it.slots (it.back - k) it.back).map .drop, outR (Iter.nextBack ⟨it.slots, it.front, it.back - k⟩).1,
        ofIter (Iter.nextBack ⟨it.slots, it.front, it.back - k⟩).2) := by
    by_cases hlt : it.front < it.back - k
    · have ⟨hb, ho'⟩ : it.back - k - 1 < it.slots.length ∧ 1 ≤ it.back - k := by clear hk; omega
      simp [body_exec, Gen.Body.nthBack, nextBack_eq, readSlot, outR, h1, h2, hk, hk1, hlt, hb, ho']
    · simp [body_exec, Gen.Body.nthBack, nextBack_eq, outR, h1, h2, hk, hk1, hlt]
  by_cases hp : GA.IterOwn.panics (sliceOf it.slots (it.back - k) it.back) c.bad
  · rw [if_pos hp] at he
    simp [runFn_of_exec he rfl (.inl (by decide)), hp, retGive, resR]
  · rw [if_neg hp] at he
    simp [runFn_of_exec he rfl (.inl (by decide)), hp, afterNext_item _ _ _ ho, resR_item, ho]

/-- closure calls over `xs` from call index `k`: events, whether every call returned, elements handed out -/
def callsSpec (fpan : Nat → Bool) : List Nat → Nat → List Ev × Bool × Nat
  | [], _ => ([], true, 0)
  | x :: xs, k =>
    if fpan k then ([.give k x, .panic k], false, 1)
    else
      let r := callsSpec fpan xs (k + 1)
      (.give k x :: r.1, r.2.1, r.2.2 + 1)

/-- `σ m k`: the state before round `m` with `k` calls made so far -/
theorem loopOver_calls (body : V → St → List Ev × R × St) (fpan : Nat → Bool) :
    ∀ (ps : List V) (xs : List Nat) (σ : Nat → Nat → St) (k : Nat) (hl : xs.length = ps.length),
      (∀ m (hm : m < xs.length) k', body (ps[m]'(hl ▸ hm)) (σ m k') =
        if fpan k' then ([.give k' xs[m], .panic k'], .panicked, σ (m + 1) (k' + 1))
        else ([.give k' xs[m]], .ret .unit, σ (m + 1) (k' + 1))) →
      loopOver body ps (σ 0 k) = ((callsSpec fpan xs k).1,
        if (callsSpec fpan xs k).2.1 then .ret .unit else .panicked,
        σ (callsSpec fpan xs k).2.2 (k + (callsSpec fpan xs k).2.2))
  | [], [], σ, k, _, _ => rfl
  | p :: ps, x :: xs, σ, k, hl, hs => by
    have h0 := hs 0 (Nat.zero_lt_succ _) k
    have ih := loopOver_calls body fpan ps xs (fun m => σ (m + 1)) (k + 1) (Nat.succ.inj hl)
      (fun m hm k' => hs (m + 1) (Nat.succ_lt_succ hm) k')
    simp only [List.getElem_cons_zero] at h0
    by_cases hf : fpan k
    · simp only [loopOver, callsSpec, h0, hf, if_true]; rfl
    · simp only [loopOver, callsSpec, h0, hf, ih, Bool.false_eq_true, if_false, List.singleton_append,
        Nat.add_assoc, Nat.add_comm 1]


theorem fold_loop (c : Ctx) (slots : List Nat) (ib : Nat) (e0 e1 : V) (out : O) (ho fg : Bool) :
    ∀ (r i k : Nat), i + r ≤ slots.length → i + r < word →
      loopOver (loopBody c (loopBodyOf Gen.Body.fold.body) [e0, e1]) ((List.range' i r).map (V.slot .self))
          ⟨⟨slots, i, ib, 0, []⟩, out, ho, k, fg, 0, false, {}⟩
        = ((callsSpec c.fpan ((slots.drop i).take r) k).1,
           (if (callsSpec c.fpan ((slots.drop i).take r) k).2.1 then R.ret .unit else R.panicked),
           ⟨⟨slots, i + (callsSpec c.fpan ((slots.drop i).take r) k).2.2, ib, 0, []⟩, out, ho,
             k + (callsSpec c.fpan ((slots.drop i).take r) k).2.2, fg, 0, false, {}⟩) := by
  intro r i k h1 h2
  refine loopOver_calls _ c.fpan _ _ (fun m k' => ⟨⟨slots, i + m, ib, 0, []⟩, out, ho, k', fg, 0, false, {}⟩) k
    (by simp; omega) ?_
  intro m hm k'
  have hm' : m < r := by simpa using Nat.lt_of_lt_of_le hm (List.length_take_le _ _)
  have ⟨hi, hi1⟩ : i + m < slots.length ∧ i + (m + 1) < word := by omega
  simp [loopBody, loopBodyOf, Gen.Body.fold, body_exec, St.obj, St.putObj, hi, hi1, Nat.add_assoc]

/-- `fold` as a whole: the closure calls, then — if one of them panicked — the iterator
    (still owned by the method's frame) releases what was not handed out -/
def foldSpec (fpan : Nat → Bool) (xs : List Nat) (k : Nat) : List Ev × Bool :=
  ((callsSpec fpan xs k).1 ++ (if (callsSpec fpan xs k).2.1 then [] else (xs.drop (callsSpec fpan xs k).2.2).map .drop),
    (callsSpec fpan xs k).2.1)

theorem callsSpec_le (fpan : Nat → Bool) : ∀ (xs : List Nat) (k : Nat), (callsSpec fpan xs k).2.2 ≤ xs.length
  | [], _ => by simp [callsSpec]
  | x :: xs, k => by
    unfold callsSpec
    split
    · simp
    · have := callsSpec_le fpan xs (k + 1)
      simp; omega

theorem callsSpec_full (f : Nat → Bool) : ∀ (xs : List Nat) (k : Nat),
    (callsSpec f xs k).2.1 = true → (callsSpec f xs k).2.2 = xs.length
  | [], _, _ => by simp [callsSpec]
  | x :: xs, k, h => by
    unfold callsSpec at h ⊢
    by_cases hf : f k
    · simp [hf] at h
    · simp only [hf, Bool.false_eq_true, if_false] at h ⊢
      simp [callsSpec_full f xs (k + 1) h]

theorem fold_body (it : Iter) (h : Inv it) (hw : it.slots.length < word) (c : Ctx) (hbad : c.bad = none) :
    let r := runFn c Gen.Body.dropIter.body Gen.Body.fold [] (ofIter it)
    (r.1, r.2.1) = ((foldSpec c.fpan (abs it) 0).1,
      if (foldSpec c.fpan (abs it) 0).2 then R.ret .unit else R.panicked) := by
  obtain ⟨h1, h2⟩ := h
  have hl := fold_loop c it.slots it.back (.nat it.back) (.slice .self it.front it.back) ⟨[], 0, 0, 0, []⟩ false false
    (it.back - it.front) it.front 0 (by omega) (by omega)
  rw [show (it.slots.drop it.front).take (it.back - it.front) = abs it from rfl] at hl
  have hle := callsSpec_le c.fpan (abs it) 0
  rw [abs_length it ⟨h1, h2⟩] at hle
  generalize hsp : callsSpec c.fpan (abs it) 0 = sp at hl hle
  obtain ⟨ev, ok, cnt⟩ := sp
  simp only [loopBodyOf, Gen.Body.fold] at hl hle
  cases ok
  · have e1 : it.front + cnt ≤ it.back := by omega
    simp [runFn, runDropOn, body_exec, St.obj, Gen.Body.fold, ofIter, positions, h1, h2, hl, e1, hbad,
      GA.IterOwn.panics, foldSpec, hsp, show sliceOf it.slots (it.front + cnt) it.back = (abs it).drop cnt from
        (sliceOf_drop ..).symm]
  · simp [runFn, body_exec, St.obj, Gen.Body.fold, ofIter, positions, h1, h2, hl, foldSpec, hsp]

theorem rfold_loop (c : Ctx) (slots : List Nat) (fr : Nat) (e0 e1 : V) (out : O) (ho fg : Bool) (i : Nat) :
    ∀ (r k : Nat), i + r ≤ slots.length →
      loopOver (loopBody c (loopBodyOf Gen.Body.rfold.body) [e0, e1]) (((List.range' i r).map (V.slot .self)).reverse)
          ⟨⟨slots, fr, i + r, 0, []⟩, out, ho, k, fg, 0, false, {}⟩
        = ((callsSpec c.fpan ((slots.drop i).take r).reverse k).1,
           (if (callsSpec c.fpan ((slots.drop i).take r).reverse k).2.1 then R.ret .unit else R.panicked),
           ⟨⟨slots, fr, i + r - (callsSpec c.fpan ((slots.drop i).take r).reverse k).2.2, 0, []⟩, out, ho,
             k + (callsSpec c.fpan ((slots.drop i).take r).reverse k).2.2, fg, 0, false, {}⟩) := by
  intro r k h1
  refine loopOver_calls _ c.fpan _ _ (fun m k' => ⟨⟨slots, fr, i + r - m, 0, []⟩, out, ho, k', fg, 0, false, {}⟩) k
    (by simp; omega) ?_
  intro m hm k'
  have hmin : min r (slots.length - i) = r := by omega
  have hm' : m < r := by simpa [hmin] using hm
  have ⟨hi, h1', e1⟩ : i + r - (m + 1) < slots.length ∧ 1 ≤ i + r - m ∧ i + (r - (1 + m)) = i + r - (m + 1) := by
    omega
  simp [loopBody, loopBodyOf, Gen.Body.rfold, body_exec, St.obj, St.putObj, hmin, hi, h1', e1, Nat.sub_sub]

/-- `rfold`: the calls run over the reversed live range; what a panic leaves is released by the
    iterator's `Drop` in storage order -/
def rfoldSpec (fpan : Nat → Bool) (xs : List Nat) (k : Nat) : List Ev × Bool :=
  ((callsSpec fpan xs k).1 ++
      (if (callsSpec fpan xs k).2.1 then [] else ((xs.drop (callsSpec fpan xs k).2.2).reverse).map .drop),
    (callsSpec fpan xs k).2.1)

theorem rfold_body (it : Iter) (h : Inv it) (c : Ctx) (hbad : c.bad = none) :
    let r := runFn c Gen.Body.dropIter.body Gen.Body.rfold [] (ofIter it)
    (r.1, r.2.1) = ((rfoldSpec c.fpan (abs it).reverse 0).1,
      if (rfoldSpec c.fpan (abs it).reverse 0).2 then R.ret .unit else R.panicked) := by
  obtain ⟨h1, h2⟩ := h
  have hl := rfold_loop c it.slots it.front (.nat it.front) (.slice .self it.front it.back) ⟨[], 0, 0, 0, []⟩ false false
    it.front (it.back - it.front) 0 (by omega)
  rw [show (it.slots.drop it.front).take (it.back - it.front) = abs it from rfl,
    show it.front + (it.back - it.front) = it.back by omega] at hl
  have hle := callsSpec_le c.fpan (abs it).reverse 0
  rw [List.length_reverse, abs_length it ⟨h1, h2⟩] at hle
  generalize hsp : callsSpec c.fpan (abs it).reverse 0 = sp at hl hle
  obtain ⟨ev, ok, cnt⟩ := sp
  simp only [loopBodyOf, Gen.Body.rfold] at hl hle
  cases ok
  · have e1 : it.front ≤ it.back - cnt := by omega
    have e2 : it.back - cnt ≤ it.slots.length := by omega
    have e3 : sliceOf it.slots it.front (it.back - cnt) = ((abs it).reverse.drop cnt).reverse := by
      rw [List.drop_reverse, List.reverse_reverse, abs_length it ⟨h1, h2⟩, abs, sliceOf_take _ _ _ _ (by omega)]
      congr 1; omega
    simp [runFn, runDropOn, body_exec, St.obj, Gen.Body.rfold, ofIter, positions, h1, h2, hl, e1, e2,
      hbad, GA.IterOwn.panics, rfoldSpec, hsp, e3]
  · simp [runFn, body_exec, St.obj, Gen.Body.rfold, ofIter, positions, h1, h2, hl, rfoldSpec, hsp]

def pairsFrom (j i : Nat) : Nat → List V
  | 0 => []
  | r + 1 => .pair (.slot .out j) (.slot .self i) :: pairsFrom (j + 1) (i + 1) r

theorem zip_positions_eq : ∀ (m n j i : Nat),
    (List.zip ((List.range' j m).map (V.slot .out)) ((List.range' i n).map (V.slot .self))).map
        (fun p => V.pair p.1 p.2) = pairsFrom j i (min m n)
  | 0, n, j, i => by simp [pairsFrom]
  | m + 1, 0, j, i => by simp [pairsFrom]
  | m + 1, n + 1, j, i => by
    have := zip_positions_eq m n (j + 1) (i + 1)
    simp only [List.range'_succ, List.map_cons, List.zip_cons_cons, Nat.succ_min_succ, pairsFrom]
    simpa using this

/-- the `Clone::clone` calls over the elements `xs`: events, whether all returned, the clones made -/
def cloneCalls (cl : Nat → Option Nat) : List Nat → Nat → List Ev × Bool × List Nat
  | [], _ => ([], true, [])
  | x :: xs, k =>
    match cl k with
    | none => ([.lend k x, .panic k], false, [])
    | some y =>
      let r := cloneCalls cl xs (k + 1)
      (.lend k x :: .take k y :: r.1, r.2.1, y :: r.2.2)

def setMany (l : List Nat) (j : Nat) : List Nat → List Nat
  | [] => l
  | y :: ys => setMany (l.set j y) (j + 1) ys

theorem setMany_length (ys : List Nat) : ∀ (l : List Nat) (j : Nat), (setMany l j ys).length = l.length := by
  induction ys with
  | nil => intro l j; rfl
  | cons y ys ih => intro l j; simp [setMany, ih]

theorem setMany_eq (ys : List Nat) : ∀ (l : List Nat) (j : Nat), j + ys.length ≤ l.length →
    setMany l j ys = l.take j ++ ys ++ l.drop (j + ys.length) := by
  induction ys with
  | nil => intro l j _; simp [setMany]
  | cons y ys ih =>
    intro l j h
    have hj : j < l.length := by simp at h; omega
    rw [setMany, ih (l.set j y) (j + 1) (by simp at h ⊢; omega), List.drop_set_of_lt (by omega), List.take_add_one,
      List.take_set_of_le (Nat.le_refl _)]
    simp [hj, Nat.add_assoc, Nat.add_comm 1]

/-- Not an instance of `loopOver_calls`: a round calls `T::clone` (`c.cl`, whose result is written to
    `out`), not the caller's closure (`c.fpan`), so the closed form is `cloneCalls`, not `callsSpec`. -/
theorem clone_loop (c : Ctx) (self : O) (fg : Bool) :
    ∀ (r j i k : Nat) (outSlots : List Nat), i + r ≤ self.slots.length → j + r ≤ outSlots.length → j + r < word →
      loopOver (zipBody c (loopBodyOf Gen.Body.clone.body) []) (pairsFrom j i r)
          ⟨self, ⟨outSlots, 0, j, 0, []⟩, true, k, fg, 0, false, {}⟩
        = ((cloneCalls c.cl ((self.slots.drop i).take r) k).1,
           (if (cloneCalls c.cl ((self.slots.drop i).take r) k).2.1 then R.ret .unit else R.panicked),
           ⟨self, ⟨setMany outSlots j (cloneCalls c.cl ((self.slots.drop i).take r) k).2.2, 0,
               j + (cloneCalls c.cl ((self.slots.drop i).take r) k).2.2.length, 0, []⟩, true,
             k + (cloneCalls c.cl ((self.slots.drop i).take r) k).2.2.length
               + (if (cloneCalls c.cl ((self.slots.drop i).take r) k).2.1 then 0 else 1), fg, 0, false, {}⟩) := by
  intro r
  induction r with
  | zero => intro j i k o _ _ _; simp [pairsFrom, loopOver, cloneCalls, setMany]
  | succ r ih =>
    intro j i k o h1 h2 h3
    have hi : i < self.slots.length := by omega
    have hj1 : j + 1 < word := by omega
    rw [List.drop_eq_getElem_cons hi]
    simp only [List.take_succ_cons, pairsFrom, loopOver, cloneCalls]
    cases hc : c.cl k with
    | none => simp [zipBody, loopBodyOf, Gen.Body.clone, body_exec, St.obj, hi, hc, setMany]
    | some y =>
      have hround : zipBody c (loopBodyOf Gen.Body.clone.body) [] (.pair (.slot .out j) (.slot .self i))
          ⟨self, ⟨o, 0, j, 0, []⟩, true, k, fg, 0, false, {}⟩ = ([.lend k self.slots[i], .take k y], .ret .unit,
            ⟨self, ⟨o.set j y, 0, j + 1, 0, []⟩, true, k + 1, fg, 0, false, {}⟩) := by
        simp [zipBody, loopBodyOf, Gen.Body.clone, body_exec, St.obj, St.putObj, hi, hj1, hc]
      simp [hround, setMany, ih (j + 1) (i + 1) (k + 1) (o.set j y) (by omega) (by simp; omega) (by omega)]
      omega

/-- `clone` as a whole: the calls, then — if one panicked — the partially built iterator (a local
    of `clone`) releases the clones made so far -/
def cloneSpec (cl : Nat → Option Nat) (xs : List Nat) : List Ev × Option (List Nat) :=
  ((cloneCalls cl xs 0).1 ++ (if (cloneCalls cl xs 0).2.1 then [] else (cloneCalls cl xs 0).2.2.map .drop),
    if (cloneCalls cl xs 0).2.1 then some (cloneCalls cl xs 0).2.2 else none)

theorem cloneCalls_len (cl : Nat → Option Nat) : ∀ (xs : List Nat) (k : Nat), (cloneCalls cl xs k).2.2.length ≤ xs.length
  | [], _ => by simp [cloneCalls]
  | x :: xs, k => by
    unfold cloneCalls
    split
    · simp
    · have := cloneCalls_len cl xs (k + 1)
      simp; omega

theorem clone_body (it : Iter) (h : Inv it) (hw : it.slots.length < word) (c : Ctx) (hbad : c.bad = none) :
    let r := runFn c Gen.Body.dropIter.body Gen.Body.clone [] (ofIter it)
    (r.1, r.2.1) = ((cloneSpec c.cl (abs it)).1,
        match (cloneSpec c.cl (abs it)).2 with | some _ => R.ret .obj | none => R.panicked)
    ∧ (∀ made, (cloneSpec c.cl (abs it)).2 = some made →
        r.2.2.out = ⟨setMany it.slots 0 made, 0, made.length, 0, []⟩ ∧ toIter r.2.2 = it) := by
  obtain ⟨h1, h2⟩ := h
  have hz := zip_positions_eq it.slots.length (it.back - it.front) 0 it.front
  rw [show min it.slots.length (it.back - it.front) = it.back - it.front by omega] at hz
  have hl := clone_loop c ⟨it.slots, it.front, it.back, 0, []⟩ false (it.back - it.front) 0 it.front 0 it.slots
    (by simp; omega) (by omega) (by omega)
  rw [show (it.slots.drop it.front).take (it.back - it.front) = abs it from rfl] at hl
  have hle := cloneCalls_len c.cl (abs it) 0
  rw [abs_length it ⟨h1, h2⟩] at hle
  generalize hsp : cloneCalls c.cl (abs it) 0 = sp at hl hle
  obtain ⟨ev, ok, made⟩ := sp
  simp only [loopBodyOf, Gen.Body.clone] at hl hle
  have e1 : made.length ≤ it.slots.length := by omega
  cases ok
  · simp [runFn, runDropOn, body_exec, St.obj, Gen.Body.clone, ofIter, zipPositions, positions, h1, h2, hz,
      hl, e1, hbad, GA.IterOwn.panics, cloneSpec, hsp, sliceOf, setMany_eq made it.slots 0 (by omega)]
  · simp [runFn, body_exec, St.obj, Gen.Body.clone, ofIter, zipPositions, positions, h1, h2, hz, hl, cloneSpec, hsp,
      GA.BodyIter.toIter]

theorem intoIter_body (l : List Nat) (c : Ctx) (hn : c.n = l.length) :
    let r := runFn c Gen.Body.dropIter.body Gen.Body.intoIter []
      { self := ⟨l, 0, 0, 0, []⟩, out := ⟨[], 0, 0, 0, []⟩, hasOut := false, calls := 0, forgot := false, polls := 0, outForgot := false }
    (r.1, r.2.1, toIter { r.2.2 with self := r.2.2.out }) = ([], R.ret .obj, Iter.ofList l) := by
  simp [runFn, body_exec, Gen.Body.intoIter, GA.BodyIter.toIter, Iter.ofList, ga_bridge, hn]

/-- a guard alone: `self` is the array with its `position` — a builder's, or an `ArrayConsumer`'s -/
def ofBuilder (slots : List Nat) (pos : Nat) : St :=
  { self := ⟨slots, 0, 0, pos, []⟩, out := ⟨[], 0, 0, 0, []⟩, hasOut := false, calls := 0, forgot := false, polls := 0, outForgot := false }

/-- `Drop for IntrusiveArrayBuilder` releases exactly `array[..position]` -/
theorem intrusiveDrop_body (slots : List Nat) (pos : Nat) (h : pos ≤ slots.length) (c : Ctx) (hb : c.bad = none) :
    let r := runFn c Gen.Body.intrusiveDrop.body Gen.Body.intrusiveDrop [] (ofBuilder slots pos)
    (r.1, r.2.1) = ((slots.take pos).map .drop, R.ret .unit) := by
  simp [runFn, body_exec, St.obj, Gen.Body.intrusiveDrop, ofBuilder, sliceOf, h, hb, GA.IterOwn.panics]

theorem builderDrop_body (slots : List Nat) (pos : Nat) (h : pos ≤ slots.length) (c : Ctx) (hb : c.bad = none) :
    let r := runFn c Gen.Body.builderDrop.body Gen.Body.builderDrop [] (ofBuilder slots pos)
    (r.1, r.2.1) = ((slots.take pos).map .drop, R.ret .unit) := by
  simp [runFn, body_exec, St.obj, Gen.Body.builderDrop, ofBuilder, sliceOf, h, hb, GA.IterOwn.panics]

/-- `Drop for ArrayConsumer` releases exactly `array[position..]` (`Consumer.dropEv` of the ownership
    model, which does not read the consumer's `idx`) -/
theorem consumerDrop_body (slots : List Nat) (pos idx : Nat) (h : pos ≤ slots.length) (c : Ctx) (hb : c.bad = none) :
    let r := runFn c Gen.Body.consumerDrop.body Gen.Body.consumerDrop [] (ofBuilder slots pos)
    (r.1, r.2.1) = ((⟨slots, idx, pos⟩ : Consumer).dropEv, R.ret .unit) := by
  simp [runFn, body_exec, St.obj, Gen.Body.consumerDrop, ofBuilder, sliceOf, h, hb, GA.IterOwn.panics, Consumer.dropEv]
  apply List.take_of_length_le
  simp

theorem isFull_body (slots : List Nat) (pos : Nat) (c : Ctx) :
    (runFn c Gen.Body.intrusiveDrop.body Gen.Body.intrusiveIsFull [] (ofBuilder slots pos)).2.1
        = R.ret (.bool (decide (pos = c.n)))
    ∧ (runFn c Gen.Body.builderDrop.body Gen.Body.builderIsFull [] (ofBuilder slots pos)).2.1
        = R.ret (.bool (decide (pos = c.n))) := by
  constructor <;> simp [runFn, body_exec, St.obj, Gen.Body.intrusiveIsFull, Gen.Body.builderIsFull, ofBuilder]

theorem finish_body (slots : List Nat) (pos : Nat) (c : Ctx) :
    let r := runFn c Gen.Body.intrusiveDrop.body Gen.Body.intrusiveFinish [] (ofBuilder slots pos)
    (r.1, r.2.1) = ([], R.ret .unit) := by
  simp [runFn, body_exec, Gen.Body.intrusiveFinish, ofBuilder]

theorem nthD_none (it : Iter) (h : Inv it) (n : Nat) :
    resR (GA.IterOwn.nthD it n none).2.1 = outR (Iter.nth it n).1 ∧ (GA.IterOwn.nthD it n none).2.2 = (Iter.nth it n).2 := by
  have ho := (next_refines _ (inv_skip it h n)).1
  rw [GA.IterOwn.nthD_eq it h n none, nth_eq it h n, if_neg (by simp [GA.IterOwn.panics]), afterNext_item _ _ _ ho,
    resR_item, ho]
  exact ⟨rfl, rfl⟩

theorem nthBackD_none (it : Iter) (h : Inv it) (n : Nat) :
    resR (GA.IterOwn.nthBackD it n none).2.1 = outR (Iter.nthBack it n).1 ∧
      (GA.IterOwn.nthBackD it n none).2.2 = (Iter.nthBack it n).2 := by
  have ho := (nextBack_refines _ (inv_skipBack it h n)).1
  rw [GA.IterOwn.nthBackD_eq it h n none, nthBack_eq it h n, if_neg (by simp [GA.IterOwn.panics]),
    afterNext_item _ _ _ ho, resR_item, ho]
  exact ⟨rfl, rfl⟩

theorem nth_value_body (it : Iter) (n : Nat) (h : Inv it) (hw : it.slots.length < word) (c : Ctx) (hb : c.bad = none) :
    let r := runFn c Gen.Body.dropIter.body Gen.Body.nth [.nat n] (ofIter it)
    (r.2.1, r.2.2) = (outR (Iter.nth it n).1, ofIter (Iter.nth it n).2) := by
  have hr := nth_body it n h hw c
  rw [hb] at hr
  obtain ⟨a, b⟩ := nthD_none it h n
  exact Prod.ext ((congrArg (·.2.1) hr).trans a) ((congrArg (·.2.2) hr).trans (congrArg ofIter b))

theorem nthBack_value_body (it : Iter) (n : Nat) (h : Inv it) (c : Ctx) (hb : c.bad = none) :
    let r := runFn c Gen.Body.dropIter.body Gen.Body.nthBack [.nat n] (ofIter it)
    (r.2.1, r.2.2) = (outR (Iter.nthBack it n).1, ofIter (Iter.nthBack it n).2) := by
  have hr := nthBack_body it n h c
  rw [hb] at hr
  obtain ⟨a, b⟩ := nthBackD_none it h n
  exact Prod.ext ((congrArg (·.2.1) hr).trans a) ((congrArg (·.2.2) hr).trans (congrArg ofIter b))

theorem inR_outR (o : IOut) : GA.BodyIter.inR (outR o) = o := by
  cases o with
  | item x => cases x <;> rfl
  | hint lo hi => cases hi <;> rfl
  | _ => rfl

theorem callsSpec_quiet : ∀ (xs : List Nat) (k : Nat),
    gives (callsSpec (fun _ => false) xs k).1 = xs ∧ (callsSpec (fun _ => false) xs k).2.1 = true
  | [], _ => by simp [callsSpec]
  | x :: xs, k => by
    have := callsSpec_quiet xs (k + 1)
    simp [callsSpec, gives, this]

theorem cloneCalls_copy (l : List Nat) : ∀ (xs : List Nat) (j : Nat), l.drop j = xs →
    (cloneCalls (fun k => l[k]?) xs j).2 = (true, xs)
  | [], _, _ => by simp [cloneCalls]
  | x :: xs, j, h => by
    have hj : j < l.length := Nat.lt_of_not_le fun hn => by rw [List.drop_eq_nil_of_le hn] at h; cases h
    rw [List.drop_eq_getElem_cons hj] at h
    obtain ⟨rfl, ht⟩ := List.cons.inj h
    have ih := cloneCalls_copy l xs (j + 1) ht
    simp only [cloneCalls, List.getElem?_eq_getElem hj]
    rw [Prod.ext_iff] at ih
    simp [ih.1, ih.2]

end GA.Bridge.Body
