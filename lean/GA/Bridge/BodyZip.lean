import GA.Bridge.BodyBuilder
import GA.Lemmas.Ops
/-!
Refinement obligation for the whole body of `<GenericArray<T, N> as GenericSequence<T>>::inverted_zip`
(src/lib.rs) — what `a.zip(b, f)` on two owned arrays runs: the `needs_drop` test, the two
`ArrayConsumer`s (or `ManuallyDrop` wrappers), `iter_position`, the `Zip` of the two slice iterators
under a `Map` whose closure reads both slots, advances both positions and calls `f`, and
`FromIterator::from_iter` with everything it calls inlined — against `GA.Ops.zipOp .owned .owned`.
-/
namespace GA.Bridge.BodyZip
open GA.Body GA.Own GA.Bridge.Body GA.Bridge.BodyBuilder GA.Bridge.BodyCollect

/-- the calls `f(x_j, y_j), f(x_{j+1}, y_{j+1}), …`: events, whether all returned, the results so far -/
def zipSpec (f : Nat → Option Nat) : List (Nat × Nat) → Nat → List Nat → List Ev × Bool × List Nat
  | [], _, out => ([], true, out)
  | (x, y) :: rest, j, out =>
    match f j with
    | some z =>
      let r := zipSpec f rest (j + 1) (out ++ [z])
      (.give j x :: .give j y :: .take j z :: r.1, r.2)
    | none => ([.give j x, .give j y, .panic j], false, out)

theorem zipSpec_eq (f : Nat → Option Nat) : ∀ (ps : List (Nat × Nat)) (j : Nat) (out : List Nat),
    zipSpec f ps j out = closureSpec (fun j p => [.give j p.1, .give j p.2]) f ps j out
  | [], _, _ => rfl
  | (x, y) :: rest, j, out => by
    simp only [zipSpec, closureSpec, zipSpec_eq f rest]
    rfl

/-- the two sides a `zip` of owned arrays can be held by: both `ArrayConsumer`s with the
    regenerated position stores, or both `ManuallyDrop` -/
def GoodSides (sa sb : Side) : Prop :=
  (∀ (l : List Nat) (j : Nat) (ok : Bool), sa.after ⟨l, j, j⟩ j ok = ⟨l, j + 1, j + 1⟩) ∧
  (∀ (l : List Nat) (j : Nat) (ok : Bool), sb.after ⟨l, j, j⟩ j ok = ⟨l, j + 1, j + 1⟩) ∧
  sa.owns = true ∧ sb.owns = true

theorem good_consumers : GoodSides (.consumer Gen.Lib.izipLeftPosNew Gen.Lib.izipLeftAdvBeforeCall)
    (.consumer Gen.Lib.izipRightPosNew Gen.Lib.izipRightAdvBeforeCall) := by
  refine ⟨fun l j ok => ?_, fun l j ok => ?_, rfl, rfl⟩ <;>
    simp [Side.after, ga_bridge, Bridge.Lib.izipLeftPosNew_eq, Bridge.Lib.izipRightPosNew_eq]

theorem good_manual : GoodSides .manual .manual :=
  ⟨fun _ _ _ => rfl, fun _ _ _ => rfl, rfl, rfl⟩

theorem own_zipLoop_eq (sa sb : Side) (hg : GoodSides sa sb) (f : Nat → Option Nat) (xs ys : List Nat)
    (hl : xs.length = ys.length) :
    ∀ (rem j : Nat) (out : List Nat), j + rem ≤ xs.length →
      Own.fillLoop true true (zipSrc sa sb f) rem ⟨⟨xs, j, j⟩, ⟨ys, j, j⟩⟩ out =
        (if (zipSpec f (((xs.zip ys).drop j).take rem) j out).2.1 then
           ((zipSpec f (((xs.zip ys).drop j).take rem) j out).1,
             FillRes.full (zipSpec f (((xs.zip ys).drop j).take rem) j out).2.2
               ⟨⟨xs, j + rem, j + rem⟩, ⟨ys, j + rem, j + rem⟩⟩)
         else
           ((zipSpec f (((xs.zip ys).drop j).take rem) j out).1 ++
              (zipSpec f (((xs.zip ys).drop j).take rem) j out).2.2.map .drop ++
              (zipSrc sa sb f).dropEv
                ⟨⟨xs, j + ((zipSpec f (((xs.zip ys).drop j).take rem) j out).2.2.length - out.length) + 1,
                      j + ((zipSpec f (((xs.zip ys).drop j).take rem) j out).2.2.length - out.length) + 1⟩,
                 ⟨ys, j + ((zipSpec f (((xs.zip ys).drop j).take rem) j out).2.2.length - out.length) + 1,
                      j + ((zipSpec f (((xs.zip ys).drop j).take rem) j out).2.2.length - out.length) + 1⟩⟩,
             FillRes.panicked)) := by
  obtain ⟨hA, hB, hoa, hob⟩ := hg
  simp only [zipSpec_eq]
  intro rem j out h
  refine own_calls_eq (zipSrc sa sb f) (fun j => ⟨⟨xs, j, j⟩, ⟨ys, j, j⟩⟩) (fun j p => [.give j p.1, .give j p.2]) f (xs.zip ys)
    (fun j h => ?_) rem j out (by rw [List.length_zip]; omega)
  have hj : j < xs.length ∧ j < ys.length := by rw [List.length_zip] at h; omega
  cases hf : f j <;>
    simp [zipSrc, List.getElem?_eq_getElem hj.1, List.getElem?_eq_getElem hj.2, hf, hA, hB, hoa, hob, arg]

/-- machine state while `zip` runs: `outL.length + extra` pairs consumed -/
def zst (xs ys outL : List Nat) (rem : Nat) (extra : Nat) (fg og : Bool) : St :=
  ⟨⟨ys, 0, 0, outL.length + extra, []⟩, ⟨outL ++ List.replicate rem 0, 0, 0, outL.length, List.range' outL.length rem⟩,
    true, outL.length + extra, fg, outL.length + extra, false,
    { other := ⟨xs, 0, 0, outL.length + extra, []⟩, otherForgot := og }⟩

/-- the same for the `ManuallyDrop` branch: the positions are never stored -/
def zstM (xs ys outL : List Nat) (rem : Nat) (extra : Nat) (p0 q0 : Nat) : St :=
  ⟨⟨ys, 0, 0, p0, []⟩, ⟨outL ++ List.replicate rem 0, 0, 0, outL.length, List.range' outL.length rem⟩,
    true, outL.length + extra, true, outL.length + extra, false,
    { other := ⟨xs, 0, 0, q0, []⟩, otherForgot := true }⟩

theorem zst_eq (xs ys outL : List Nat) (rem e : Nat) (fg og : Bool) :
    zst xs ys outL rem e fg og = ⟨⟨ys, 0, 0, outL.length + e, []⟩, bO outL rem, true, outL.length + e, fg, outL.length + e,
      false, { other := ⟨xs, 0, 0, outL.length + e, []⟩, otherForgot := og }⟩ := rfl

theorem zstM_eq (xs ys outL : List Nat) (rem e p0 q0 : Nat) :
    zstM xs ys outL rem e p0 q0 = ⟨⟨ys, 0, 0, p0, []⟩, bO outL rem, true, outL.length + e, true, outL.length + e,
      false, { other := ⟨xs, 0, 0, q0, []⟩, otherForgot := true }⟩ := rfl

/-- the `then` arm of the regenerated `if needs_drop::<A>() || needs_drop::<B>()` -/
def thenOf : S → S
  | .ite _ t _ => t
  | _ => .opaque 0
def elseOf : S → S
  | .ite _ _ e => e
  | _ => .opaque 0
/-- the closure of the `fillZipMapS` inside an arm -/
def zcloOf : S → S
  | .set _ _ _ k => zcloOf k
  | .ite _ _ e => zcloOf e
  | .newBuilder k => zcloOf k
  | .forgetO _ k => zcloOf k
  | .forget k => zcloOf k
  | .fillZipMapS _ _ _ cl _ _ => cl
  | _ => .opaque 0
/-- the loop body of that `fillZipMapS` -/
def zbodyOf : S → S
  | .set _ _ _ k => zbodyOf k
  | .ite _ _ e => zbodyOf e
  | .newBuilder k => zbodyOf k
  | .forgetO _ k => zbodyOf k
  | .forget k => zbodyOf k
  | .fillZipMapS _ _ _ _ b _ => b
  | _ => .opaque 0

theorem zip_length {xs ys : List Nat} (hl : xs.length = ys.length) : (xs.zip ys).length = ys.length := by
  simp [List.length_zip, hl]

/-- the loop of the branch with two `ArrayConsumer`s: the closure reads both slots, advances both
    positions and calls `f`; `zst` are its states -/
theorem gaIzip_closureLoop (c : Ctx) (xs ys : List Nat) (hl : xs.length = ys.length) (hw : ys.length < word) (fg og : Bool) :
    ClosureLoop c .other .self (fillBody c (zcloOf (thenOf Gen.Body.gaIzip.body)) [])
      (fillBody c (zbodyOf (thenOf Gen.Body.gaIzip.body)) []) (fun j (p : Nat × Nat) => [.give j p.1, .give j p.2]) (xs.zip ys)
      (fun o r e => zst xs ys o r e fg og) where
  out _ _ _ := rfl
  polls _ _ _ := rfl
  len _ _ _ := by simp [zst, St.obj, hl, List.length_zip]
  pushes y outL rem s ho k f p o e hw := by
    simp [fillBody, zbodyOf, thenOf, Gen.Body.gaIzip, body_exec, St.obj, St.putObj, bO, hw, repl_set0, erase_fresh]
  round o r h := by
    have hj : o.length < ys.length := zip_length hl ▸ h
    have hw1 : o.length + 1 < word := by omega
    cases hc : c.cl o.length <;>
      simp [fillBody, zcloOf, thenOf, Gen.Body.gaIzip, body_exec, St.obj, St.putObj, zst, bO, hj, hl, hw1, hc]

theorem zip_loop_body (c : Ctx) (xs ys : List Nat) (hl : xs.length = ys.length) (fg og : Bool) :
    ∀ (rem : Nat) (outL : List Nat), outL.length + rem ≤ ys.length → ys.length < word →
      zipMapLoop .other .self
          (fun p q s => exec c (zcloOf (thenOf Gen.Body.gaIzip.body)) (([] : List V).take 0 ++ [p, q]) s)
          (fun d v s => exec c (zbodyOf (thenOf Gen.Body.gaIzip.body)) ([] ++ [d, v]) s)
          ((List.range' outL.length rem).map (V.slot .out)) (zst xs ys outL rem 0 fg og)
        = ((zipSpec c.cl (((xs.zip ys).drop outL.length).take rem) outL.length outL).1,
           (if (zipSpec c.cl (((xs.zip ys).drop outL.length).take rem) outL.length outL).2.1 then R.ret .unit else R.panicked),
           zst xs ys (zipSpec c.cl (((xs.zip ys).drop outL.length).take rem) outL.length outL).2.2
             (outL.length + rem - (zipSpec c.cl (((xs.zip ys).drop outL.length).take rem) outL.length outL).2.2.length)
             (if (zipSpec c.cl (((xs.zip ys).drop outL.length).take rem) outL.length outL).2.1 then 0 else 1) fg og) := by
  intro rem outL h hw
  simp only [zipSpec_eq]
  exact zipMapLoop_calls (gaIzip_closureLoop c xs ys hl hw fg og) (zip_length hl ▸ hw) rem outL (zip_length hl ▸ h)

/-- the loop of the `ManuallyDrop` branch: no position is stored, nothing will be dropped -/
theorem gaIzip_closureLoop_manual (c : Ctx) (xs ys : List Nat) (hl : xs.length = ys.length) (p0 q0 : Nat) :
    ClosureLoop c .other .self (fillBody c (zcloOf (elseOf Gen.Body.gaIzip.body)) [])
      (fillBody c (zbodyOf (elseOf Gen.Body.gaIzip.body)) []) (fun j (p : Nat × Nat) => [.give j p.1, .give j p.2]) (xs.zip ys)
      (fun o r e => zstM xs ys o r e p0 q0) where
  out _ _ _ := rfl
  polls _ _ _ := rfl
  len _ _ _ := by simp [zstM, St.obj, hl, List.length_zip]
  pushes y outL rem s ho k f p o e hw := by
    simp [fillBody, zbodyOf, elseOf, Gen.Body.gaIzip, body_exec, St.obj, St.putObj, bO, hw, repl_set0, erase_fresh]
  round o r h := by
    have hj : o.length < ys.length := zip_length hl ▸ h
    cases hc : c.cl o.length <;> simp [fillBody, zcloOf, elseOf, Gen.Body.gaIzip, body_exec, St.obj, zstM, bO, hj, hl, hc]

theorem zip_loop_body_manual (c : Ctx) (xs ys : List Nat) (hl : xs.length = ys.length) (p0 q0 : Nat) :
    ∀ (rem : Nat) (outL : List Nat), outL.length + rem ≤ ys.length → ys.length < word →
      zipMapLoop .other .self
          (fun p q s => exec c (zcloOf (elseOf Gen.Body.gaIzip.body)) (([] : List V).take 0 ++ [p, q]) s)
          (fun d v s => exec c (zbodyOf (elseOf Gen.Body.gaIzip.body)) ([] ++ [d, v]) s)
          ((List.range' outL.length rem).map (V.slot .out)) (zstM xs ys outL rem 0 p0 q0)
        = ((zipSpec c.cl (((xs.zip ys).drop outL.length).take rem) outL.length outL).1,
           (if (zipSpec c.cl (((xs.zip ys).drop outL.length).take rem) outL.length outL).2.1 then R.ret .unit else R.panicked),
           zstM xs ys (zipSpec c.cl (((xs.zip ys).drop outL.length).take rem) outL.length outL).2.2
             (outL.length + rem - (zipSpec c.cl (((xs.zip ys).drop outL.length).take rem) outL.length outL).2.2.length)
             (if (zipSpec c.cl (((xs.zip ys).drop outL.length).take rem) outL.length outL).2.1 then 0 else 1) p0 q0) := by
  intro rem outL h hw
  simp only [zipSpec_eq]
  exact zipMapLoop_calls (gaIzip_closureLoop_manual c xs ys hl p0 q0) (zip_length hl ▸ hw) rem outL (zip_length hl ▸ h)

/-- **`a.zip(b, f)` on two owned arrays, whole body** (`inverted_zip`, both `needs_drop` branches,
    everything `from_iter` calls inlined from its current source): for every pair of arrays of the
    same length below `2^64` and every closure (returning or panicking at any call) the
    interpretation — with the regenerated `Drop for ArrayConsumer` / `IntrusiveArrayBuilder` run in
    unwinding order — produces exactly the events and the result of the ownership model's `zipOp`. -/
theorem gaIzip_body (xs ys : List Nat) (hl : xs.length = ys.length) (hw : ys.length < word) (c : Ctx)
    (hn : c.n = ys.length) (hb : c.bad = none) (p0 q0 : Nat) :
    let r := runFn3 c Gen.Body.consumerDrop.body Gen.Body.intrusiveDrop.body Gen.Body.gaIzip []
      ⟨⟨ys, 0, 0, p0, []⟩, ⟨[], 0, 0, 0, []⟩, false, 0, false, 0, false, { other := ⟨xs, 0, 0, q0, []⟩ }⟩
    (r.1, resOf r.2.1) =
      ((GA.Ops.zipOp .owned .owned c.ext.ndOther c.ext.ndSelf c.cl xs ys).1,
       some (GA.Ops.zipOp .owned .owned c.ext.ndOther c.ext.ndSelf c.cl xs ys).2) := by
  have hzl := zip_length hl
  have hall : ((xs.zip ys).drop 0).take ys.length = xs.zip ys := List.take_of_length_le (by simp [hzl])
  have hlen := closureSpec_len (fun j (p : Nat × Nat) => [.give j p.1, .give j p.2]) c.cl (xs.zip ys) 0 []
  have hrej : hintReject canonFrags (xs.length, some xs.length) xs.length = false := by simp [hintReject, canonFrags]
  have hev : ∀ st, eval c [] st (.or (.needsDrop .self) (.needsDrop .other)) = some (.bool (c.ext.ndSelf || c.ext.ndOther)) := by
    intro st; cases hs : c.ext.ndSelf <;> cases ho : c.ext.ndOther <;> simp [eval, hs, ho, boolOf]
  have hcf := GA.Ops.collectFrags_eq (decide (GA.Ops.Form.owned = GA.Ops.Form.boxed))
  have hloop := zipMapLoop_calls (gaIzip_closureLoop c xs ys hl hw false false) (hzl ▸ hw) ys.length [] (by simp [hzl])
  have hloopM := zipMapLoop_calls (gaIzip_closureLoop_manual c xs ys hl p0 q0) (hzl ▸ hw) ys.length [] (by simp [hzl])
  have hm := own_zipLoop_eq _ _ good_consumers c.cl xs ys hl xs.length 0 [] (by omega)
  have hmM := own_zipLoop_eq _ _ good_manual c.cl xs ys hl xs.length 0 [] (by omega)
  simp only [zipSpec_eq, hall, hl ▸ hall, hzl, List.length_nil, Nat.zero_add, zst_eq, zstM_eq, zcloOf, zbodyOf, thenOf, elseOf,
    Gen.Body.gaIzip, Nat.sub_zero] at hloop hloopM hm hmM hlen
  generalize closureSpec (fun j (p : Nat × Nat) => [Ev.give j p.1, .give j p.2]) c.cl (xs.zip ys) 0 [] = q
    at hloop hloopM hm hmM hlen
  obtain ⟨tr, ok, out⟩ := q
  obtain ⟨-, hfull, hpart⟩ := hlen
  have hbr := Bridge.Lib.izipDropBranch_eq c.ext.ndSelf c.ext.ndOther
  by_cases hnd : (c.ext.ndSelf || c.ext.ndOther) = true
  · -- some element type needs drop: two `ArrayConsumer`s
    simp only [GA.Ops.zipOp, GA.Ops.zipSides, hbr, hnd, if_true, hcf, Own.fromIter, tryFromIter_canon, hrej, Consumer.ofList, hm]
    simp only [runFn3, Gen.Body.gaIzip, exec_ite, hev, boolOf, hnd]
    cases ok
    · have hle2 : out.length + 1 ≤ ys.length := hpart rfl
      have hle3 : out.length + 1 ≤ xs.length := by omega
      simp [runDropOn, body_exec, St.obj, St.putObj, List.range_eq_range', positions, hn, hloop, resOf, hb, GA.IterOwn.panics,
        hle2, hle3, zipSrc, Side.dropEv, Consumer.dropEv]
    · have hlen' : out.length = ys.length := hfull rfl
      simp [runDropOn, body_exec, St.obj, St.putObj, List.range_eq_range', positions, hn, hl, hloop, hlen', resOf, bO_full, hb,
        GA.IterOwn.panics, zipSrc, Side.dropEv, Consumer.dropEv]
  · -- none does: two `ManuallyDrop`s
    have hnd' : (c.ext.ndSelf || c.ext.ndOther) = false := by simpa using hnd
    simp only [GA.Ops.zipOp, GA.Ops.zipSides, hbr, hnd', Bool.false_eq_true, if_false, hcf, Own.fromIter, tryFromIter_canon, hrej,
      Consumer.ofList, hmM]
    simp only [runFn3, Gen.Body.gaIzip, exec_ite, hev, boolOf, hnd']
    cases ok
    · simp [runDropOn, body_exec, List.range_eq_range', positions, hn, hloopM, resOf, hb, GA.IterOwn.panics, zipSrc, Side.dropEv]
    · have hlen' : out.length = ys.length := hfull rfl
      simp [body_exec, St.obj, List.range_eq_range', positions, hn, hl, hloopM, hlen', resOf, bO_full, zipSrc, Side.dropEv]

end GA.Bridge.BodyZip
