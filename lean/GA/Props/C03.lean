import GA.Props.Pool
/-!
# C03 — every element is dropped exactly once across any history of ownership moves

`GA.Pool` chains the models of all ownership-moving operations (`GA.Pool.Op`); flatten/unflatten enter as
regrouping, conversions as identity on the elements.  Element ids are `0, 1, 2, …` in creation order, so "the
elements that ever existed" is `List.range next`.
-/
namespace GA.Props.C03
open GA.Pool GA.Own GA.Iter

/-- **the ledger holds after every finite history**: each element created so far is in exactly one
    place — a live array, the live range of a live iterator, the caller's hands, or the drop log -/
theorem history_ledger (ops : List Op) (p : Pool) (h : Ledger p) : Ledger (run p ops) := by
  induction ops generalizing p with
  | nil => exact h
  | cons op ops ih => exact ih (step p op) (step_ledger p h op)

theorem empty_ledger : Ledger Pool.empty := by
  refine ⟨by simp [Pool.empty, Pool.owned], ?_⟩
  intro it hit; simp [Pool.empty] at hit

/-- **exactly once**: when everything has gone out of scope, the drop log is a permutation of the
    elements ever created — none missing (no leak), none twice (no double drop) -/
theorem history_final (ops : List Op) :
    (dropAll (run Pool.empty ops)).dropped.Perm (List.range (run Pool.empty ops).next) ∧
    (dropAll (run Pool.empty ops)).dropped.Nodup := by
  obtain ⟨hp, hi⟩ := history_ledger ops Pool.empty empty_ledger
  generalize run Pool.empty ops = p at *
  have hmap : p.iters.map asSlice = p.iters.map abs := by
    apply List.map_congr_left; intro it _; exact asSlice_eq it
  have hperm : (dropAll p).dropped.Perm (List.range p.next) := by
    refine List.Perm.trans ?_ hp
    refine List.perm_iff_count.mpr fun a => ?_
    simp only [dropAll, hmap, Pool.owned, List.count_append]; omega
  exact ⟨hperm, hperm.nodup_iff.mpr List.nodup_range⟩

/-- **never observed after being dropped**: an element in the drop log is not in any live array,
    live iterator range or the caller's hands — at every point of every history -/
theorem no_use_after_drop (ops : List Op) (x : Id) (hx : x ∈ (run Pool.empty ops).dropped) :
    x ∉ (run Pool.empty ops).arrays.flatten ∧ x ∉ ((run Pool.empty ops).iters.map abs).flatten ∧
    x ∉ (run Pool.empty ops).held ∧ (run Pool.empty ops).dropped.count x = 1 := by
  obtain ⟨hp, _⟩ := history_ledger ops Pool.empty empty_ledger
  generalize run Pool.empty ops = p at *
  have hnd : p.owned.Nodup := hp.nodup_iff.mpr List.nodup_range
  have hc : p.owned.count x ≤ 1 := List.nodup_iff_count.mp hnd x
  have hd : 1 ≤ p.dropped.count x := List.count_pos_iff.mpr hx
  rw [owned_count] at hc
  refine ⟨?_, ?_, ?_, by omega⟩ <;> (intro hm; have := List.count_pos_iff.mpr hm; omega)

/-- elements handed to the caller stay live until the caller drops them -/
theorem held_live (ops : List Op) (x : Id) (hx : x ∈ (run Pool.empty ops).held) :
    x ∉ (run Pool.empty ops).dropped := by
  intro hd
  exact (no_use_after_drop ops x hd).2.2.1 hx

example : (dropAll (run Pool.empty
    [.gen 3, .gen 2, .concat, .intoIter, .next, .nthBack 1, .iterClone, .iterDrop, .gen 4, .map, .popBack,
     .remove 1, .split 1, .rotA, .dropArr, .rotI, .iterFold, .append, .swapRemove 0, .gen 2, .gen 2, .zip])).dropped.length
    = (run Pool.empty
    [.gen 3, .gen 2, .concat, .intoIter, .next, .nthBack 1, .iterClone, .iterDrop, .gen 4, .map, .popBack,
     .remove 1, .split 1, .rotA, .dropArr, .rotI, .iterFold, .append, .swapRemove 0, .gen 2, .gen 2, .zip]).next := by decide

end GA.Props.C03

#print axioms GA.Props.C03.history_ledger
#print axioms GA.Props.C03.history_final
#print axioms GA.Props.C03.no_use_after_drop
#print axioms GA.Props.C03.held_live
