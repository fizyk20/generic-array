import GA.Model.Hex
import GA.Bridge.Hex
/-!
# C14 — hex formatting prints exactly the bytes' digits, truncated to the precision
-/
namespace GA.Props.C14
open GA.Hex GA.Gen

theorem hexDigits_nil (u : Bool) : hexDigits u [] = [] := rfl
theorem hexDigits_cons (u : Bool) (c : Nat) (t : List Nat) : hexDigits u (c :: t) = digitsOf u c ++ hexDigits u t := by
  simp [hexDigits]
theorem hexDigits_append (u : Bool) (a b : List Nat) : hexDigits u (a ++ b) = hexDigits u a ++ hexDigits u b := by
  simp [hexDigits]
theorem hexDigits_length (u : Bool) (bs : List Nat) : (hexDigits u bs).length = 2 * bs.length := by
  induction bs with
  | nil => rfl
  | cons c t ih => rw [hexDigits_cons, List.length_append, ih, List.length_cons, Nat.mul_succ, Nat.add_comm]; rfl

theorem hexDigits_take (u : Bool) (bs : List Nat) (k : Nat) :
    hexDigits u (bs.take k) = (hexDigits u bs).take (2 * k) := by
  induction bs generalizing k with
  | nil => simp [hexDigits_nil]
  | cons c t ih =>
    cases k with
    | zero => simp [hexDigits_nil]
    | succ k =>
      rw [List.take_succ_cons, hexDigits_cons, hexDigits_cons, ih]
      rfl  -- `digitsOf u c` is a two-element literal and `2 * (k + 1)` unfolds to two successors

theorem take_hexDigits_take (u : Bool) (bs : List Nat) (k m : Nat) (h : m ≤ 2 * k) :
    (hexDigits u (bs.take k)).take m = (hexDigits u bs).take m := by
  rw [hexDigits_take, List.take_take, Nat.min_eq_left h]

theorem alphabet_getD : ∀ u : Bool, ∀ k : Fin 16, (alphabet u).getD k.val 0 = hexChar u k.val := by decide

/-- `c >> 4` and `c & 0xF` are the two nibbles of a byte, and the alphabet turns each into its digit -/
theorem digitsOf_eq (u : Bool) (c : Nat) (h : c < 256) :
    digitsOf u c = [hexChar u (c / 16), hexChar u (c % 16)] := by
  have h1 := alphabet_getD u ⟨c / 16, by omega⟩
  have h2 := alphabet_getD u ⟨c % 16, by omega⟩
  simp only [digitsOf, Hex.firstDigitIdx, Hex.secondDigitIdx, Nat.shiftRight_eq_div_pow,
    show c &&& 15 = c % 16 from Nat.and_two_pow_sub_one_eq_mod c 4]
  rw [← h1, ← h2]

/-- **nibble table**: for every byte value the two characters produced are the standard hexadecimal
    digits of the byte, high nibble first, in the requested case -/
theorem nibble_table : ∀ c : Fin 256, ∀ u : Bool,
    digitsOf u c.val = [hexChar u (c.val / 16), hexChar u (c.val % 16)] := fun c u => digitsOf_eq u c.val c.isLt

theorem hexDigits_spec (u : Bool) (bs : List Nat) (h : ∀ b ∈ bs, b < 256) : hexDigits u bs = specDigits u bs := by
  induction bs with
  | nil => rfl
  | cons c t ih =>
    rw [hexDigits_cons, ih (fun b hb => h b (List.mem_cons_of_mem c hb)), digitsOf_eq u c (h c List.mem_cons_self)]
    rfl

/-- the `encode` contract as its callers use it: length kept, a prefix within the fresh digits is a prefix of the digits -/
theorem encode_take (u : Bool) (src dst : List Nat) (h : 2 * src.length ≤ dst.length) (k : Nat)
    (hk : k ≤ 2 * src.length) :
    ∃ buf, encode u src dst = some buf ∧ buf.length = dst.length ∧ buf.take k = (hexDigits u src).take k := by
  refine ⟨_, if_pos h, ?_, List.take_append_of_le_length (by rw [hexDigits_length]; exact hk)⟩
  rw [List.length_append, hexDigits_length, List.length_drop, Nat.add_sub_cancel' h]

theorem chunksOf_props (k : Nat) (hk : 0 < k) (fuel : Nat) (l : List Nat) (hf : l.length ≤ fuel) :
    (chunksOf k fuel l).flatten = l ∧ ∀ c ∈ chunksOf k fuel l, c.length ≤ k := by
  induction fuel generalizing l with
  | zero =>
    cases List.eq_nil_of_length_eq_zero (Nat.le_zero.mp hf)
    exact ⟨rfl, fun _ h => nomatch h⟩
  | succ fuel ih =>
    cases l with
    | nil => exact ⟨rfl, fun _ h => nomatch h⟩
    | cons x t =>
      obtain ⟨h1, h2⟩ := ih ((x :: t).drop k) (by rw [List.length_drop]; omega)
      refine ⟨by rw [chunksOf, List.flatten_cons, h1, List.take_append_drop], fun c hc => ?_⟩
      rcases List.mem_cons.mp hc with rfl | hc
      · exact List.length_take_le k _
      · exact h2 c hc

/-- the chunk loop with a reused buffer and a running digit budget prints exactly the first `dl`
    digits of the concatenated chunks — stale digits left in the buffer by earlier chunks are never
    printed, and no slice leaves the buffer -/
theorem largeLoop_spec (u : Bool) (chunks : List (List Nat)) (buf : List Nat) (dl : Nat)
    (hfit : ∀ c ∈ chunks, 2 * c.length ≤ buf.length) :
    largeLoop u chunks buf dl = some ((hexDigits u chunks.flatten).take dl) := by
  induction chunks generalizing buf dl with
  | nil => rw [largeLoop, List.flatten_nil, hexDigits_nil, List.take_nil]
  | cons ch rest ih =>
    have hch : 2 * ch.length ≤ buf.length := hfit ch List.mem_cons_self
    obtain ⟨buf', e, hlen, ht⟩ := encode_take u ch buf hch (min (2 * ch.length) dl) (Nat.min_le_left _ _)
    have hn : min (2 * ch.length) dl ≤ buf'.length ∧ min (2 * ch.length) dl ≤ dl := ⟨by omega, Nat.min_le_right _ _⟩
    simp only [largeLoop, e, ga_bridge, hn, and_self, if_true, ht]
    rw [ih _ _ (fun c hc => hlen ▸ hfit c (List.mem_cons_of_mem ch hc)), List.flatten_cons, hexDigits_append,
      List.take_append, hexDigits_length, List.take_eq_take_min (i := dl), hexDigits_length, Nat.min_comm,
      ← Nat.sub_eq_sub_min]

theorem digitBudget_eq (n : Nat) (prec : Option Nat) : digitBudget n prec = min (prec.getD (2 * n)) (2 * n) := by
  unfold digitBudget
  cases prec with
  | none => simp only [ga_bridge, Option.getD_none, Nat.min_self]
  | some p => simp only [ga_bridge, decide_eq_true_eq, Option.getD_some]; split <;> omega

/-- **main theorem**: for every byte string, every precision (or none) and both cases, `{:x}` / `{:X}`
    print exactly the first `min(p, 2N)` characters of the two-digits-per-byte string, on all three
    strategies — for the thresholds the source currently has, whatever they are, as long as a chunk's
    digits fit the reused buffer (`0 < chunkLen`, `2 * chunkLen ≤ largeBufLen`). -/
theorem hex_spec (u : Bool) (bytes : List Nat) (prec : Option Nat) :
    genericHex u bytes prec =
      some ((hexDigits u bytes).take (min (prec.getD (2 * bytes.length)) (2 * bytes.length))) := by
  unfold genericHex
  simp only [ga_bridge, Bridge.Hex.maxBytes_eq]
  rw [← digitBudget_eq]
  have hmd_le : digitBudget bytes.length prec ≤ 2 * bytes.length := digitBudget_eq .. ▸ Nat.min_le_right ..
  generalize digitBudget bytes.length prec = md at *
  -- `max_bytes`: enough bytes for `md` digits, and within the array
  obtain ⟨hmb, hmd⟩ : (md + 1) / 2 ≤ bytes.length ∧ md ≤ 2 * ((md + 1) / 2) := by omega
  generalize (md + 1) / 2 = mb at *
  have hil : (bytes.take mb).length = mb := by rw [List.length_take, Nat.min_eq_left hmb]
  have hcut := take_hexDigits_take u bytes mb md hmd
  simp only [Nat.not_lt.mpr hmb, decide_false, Bool.false_eq_true, if_false]
  by_cases hsmall : Hex.smallPath bytes.length = true
  · simp only [hsmall, if_true]
    by_cases htiny : Hex.tinyPath bytes.length = true
    · obtain ⟨buf, e, hl, ht⟩ := encode_take u bytes (List.replicate (2 * bytes.length) 0)
        (Nat.le_of_eq List.length_replicate.symm) md hmd_le
      simp only [htiny, if_true, e, hl, ht, List.length_replicate, hmd_le]
    · obtain ⟨buf, e, hl, ht⟩ := encode_take u (bytes.take mb) (List.replicate (2 * bytes.length) 0)
        (by rw [hil, List.length_replicate]; exact Nat.mul_le_mul_left 2 hmb) md (hil.symm ▸ hmd)
      simp only [htiny, Bool.false_eq_true, if_false, e, hl, ht, List.length_replicate, hmd_le, if_true, hcut]
  · obtain ⟨c1, c2⟩ := chunksOf_props Hex.chunkLen Bridge.Hex.chunk_pos _ (bytes.take mb) (Nat.le_refl _)
    simp only [hsmall, Bool.false_eq_true, if_false]
    rw [largeLoop_spec u _ _ md (fun c hc => by
      rw [List.length_replicate]
      exact Nat.le_trans (Nat.mul_le_mul_left 2 (c2 c hc)) Bridge.Hex.chunk_fits), c1, hcut]

/-- the input slice `&arr[..max_bytes]` is always within the array: the `unreachable_unchecked`
    guard can never be reached -/
theorem input_within (n : Nat) (prec : Option Nat) :
    Hex.inputGuardFails (Hex.maxBytes (digitBudget n prec)) n = false := by
  rw [digitBudget_eq]
  simp only [ga_bridge, Bridge.Hex.maxBytes_eq, decide_eq_false_iff_not]
  omega

/-- in terms of the format specification: `{:02x}` per byte, truncated -/
theorem hex_format_spec (u : Bool) (bytes : List Nat) (hb : ∀ b ∈ bytes, b < 256) (prec : Option Nat) :
    genericHex u bytes prec = some ((specDigits u bytes).take (min (prec.getD (2 * bytes.length)) (2 * bytes.length))) := by
  rw [hex_spec, hexDigits_spec u bytes hb]

/-- the output does not depend on which encoder satisfies the `encode` contract (table fallback or
    the SIMD encoder of the `faster-hex` feature): the model is parametric in nothing else -/
theorem feature_independent (u : Bool) (bytes : List Nat) (prec : Option Nat) (out : List Nat)
    (h : genericHex u bytes prec = some out) : out.length = min (prec.getD (2 * bytes.length)) (2 * bytes.length) := by
  rw [hex_spec] at h
  cases h
  rw [List.length_take, hexDigits_length, Nat.min_eq_left (Nat.min_le_right ..)]

example : genericHex false [10, 20, 30] (some 3) = some [48, 97, 49] := by decide        -- "0a1"
example : genericHex true [255, 1] none = some [70, 70, 48, 49] := by decide              -- "FF01"
example : genericHex false [10, 20, 30] (some 0) = some [] := by decide

end GA.Props.C14

#print axioms GA.Props.C14.nibble_table
#print axioms GA.Props.C14.hex_spec
#print axioms GA.Props.C14.hex_format_spec
#print axioms GA.Props.C14.largeLoop_spec
#print axioms GA.Props.C14.input_within
#print axioms GA.Props.C14.feature_independent
