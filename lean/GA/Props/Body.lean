import GA.Bridge.Body
import GA.Lemmas.Iter
import GA.Lemmas.IterOwn
import GA.Props.C06
/-!
C03–C06 for the *interpreted* bodies of src/iter.rs and of the drop guards of src/internal.rs
(`GA.BodyIter.step` drives the iterator by interpreting the regenerated bodies): for every state
satisfying the representation invariant, every argument, every panic position and every operation
sequence.  They follow from the refinement obligations in `GA.Bridge.Body` and the model theorems.
-/
namespace GA.Props.Body
open GA.Body GA.Iter GA.Own GA.Bridge.Body
open GA.BodyIter (ofIter toIter vctx inR call method cloneVia sliceVia foldVia consumeVia)

theorem vctx_bad (n : Nat) (l : List Nat) : (vctx n l).bad = none := rfl

/-- the context in which `GA.BodyIter.call` runs a body on `it` -/
abbrev ctxOf (it : Iter) : Ctx := vctx it.slots.length (sliceOf it.slots it.front it.back)

theorem clone_via (it : Iter) (h : Inv it) (hw : it.slots.length < word) : cloneVia it = some (Iter.clone it) := by
  have hl := abs_length it h
  have hb := clone_body it h hw (ctxOf it) rfl
  obtain ⟨h1, h2⟩ := h
  have hc := cloneCalls_copy (abs it) (abs it) 0 (by simp)
  have hspec : (cloneSpec (ctxOf it).cl (abs it)).2 = some (abs it) := by
    show (cloneSpec (fun k => (abs it)[k]?) (abs it)).2 = some (abs it)
    unfold cloneSpec
    rw [hc]
    simp
  obtain ⟨hb1, hb2⟩ := hb
  rw [hspec] at hb1
  simp only [Prod.mk.injEq] at hb1
  simp only [cloneVia, call, GA.BodyIter.D, hb1.2, (hb2 _ hspec).1]
  unfold Iter.clone
  rw [asSlice_eq, setMany_eq (abs it) it.slots 0 (by omega)]
  simp [show min it.slots.length (abs it).length = (abs it).length by omega]

theorem fold_via (it : Iter) (h : Inv it) (hw : it.slots.length < word) :
    foldVia it Gen.Body.fold = .items (abs it) := by
  have hb := fold_body it h hw (ctxOf it) rfl
  simp only [Prod.mk.injEq] at hb
  obtain ⟨q1, q2⟩ := callsSpec_quiet (abs it) 0
  simp only [foldVia, call, GA.BodyIter.D, hb.1, hb.2]
  simp [foldSpec, vctx, q1, q2]

theorem rfold_via (it : Iter) (h : Inv it) : foldVia it Gen.Body.rfold = .items (abs it).reverse := by
  have hb := rfold_body it h (ctxOf it) rfl
  simp only [Prod.mk.injEq] at hb
  obtain ⟨q1, q2⟩ := callsSpec_quiet (abs it).reverse 0
  simp only [foldVia, call, GA.BodyIter.D, hb.1, hb.2]
  simp [rfoldSpec, vctx, q1, q2]

theorem count_via (it : Iter) (h : Inv it) : consumeVia it Gen.Body.count = .num (abs it).length := by
  have hb := count_body it h (ctxOf it)
  simp only [Prod.mk.injEq] at hb
  simp only [consumeVia, call, GA.BodyIter.D, hb.2, abs_length it h]
  simp [GA.IterOwn.countD, GA.IterOwn.panics, vctx, Gen.Iter.len, inR]

theorem last_via (it : Iter) (h : Inv it) : consumeVia it Gen.Body.last = .item (abs it).getLast? := by
  have hb := last_body it h (ctxOf it)
  simp only [Prod.mk.injEq] at hb
  simp only [consumeVia, call, GA.BodyIter.D, hb.2]
  simp only [GA.IterOwn.lastD, GA.IterOwn.panics, vctx, GA.IterOwn.afterNext, (nextBack_refines it h).1]
  cases (abs it).getLast? <;> rfl

theorem method_eq {it : Iter} {f : Fn} {args : List V} {o : IOut} {it' : Iter}
    (hc : ((call it f args).2.1, (call it f args).2.2) = (outR o, ofIter it')) : method it f args = (o, it') := by
  have e1 : (call it f args).2.1 = outR o := congrArg Prod.fst hc
  have e2 : (call it f args).2.2 = ofIter it' := congrArg Prod.snd hc
  simp only [method, e1, e2, inR_outR]
  rfl

/-- **Every operation, carried out by interpreting the regenerated bodies, is the model's step.** -/
theorem step_eq (it : Iter) (h : Inv it) (hw : it.slots.length < word) (op : IOp) :
    GA.BodyIter.step it op = Iter.step it op := by
  have hcl := clone_via it h hw
  obtain ⟨hca, hci⟩ := clone_abs it h
  have hcw : (Iter.clone it).slots.length < word := by rw [clone_len it h]; exact hw
  have hok := sliceOk_of_inv it h
  cases op with
  | next => exact method_eq (congrArg Prod.snd (next_body it h hw _))
  | nextBack => exact method_eq (congrArg Prod.snd (nextBack_body it h _))
  | nth n => exact method_eq (nth_value_body it n h hw _ rfl)
  | nthBack n => exact method_eq (nthBack_value_body it n h _ rfl)
  | len => exact method_eq (congrArg Prod.snd (len_body it h _))
  | sizeHint => exact method_eq (congrArg Prod.snd (sizeHint_body it h _))
  | debug => exact method_eq (congrArg Prod.snd (debug_body it h _))
  | asSlice =>
    have e := congrArg (·.2.1) (asSlice_body it h (ctxOf it))
    simp only [GA.BodyIter.step, sliceVia, call, GA.BodyIter.D, e, Iter.step, hok, if_true, asSlice]
  | write i v =>
    have e := congrArg (·.2.1) (asMutSlice_body it h (ctxOf it))
    simp only [GA.BodyIter.step, sliceVia, call, GA.BodyIter.D, e, Iter.step, ga_bridge, rangeOk_of h.1 h.2, if_true]
  | clone =>
    have e := congrArg (·.2.1) (asSlice_body _ hci (ctxOf (Iter.clone it)))
    simp only [GA.BodyIter.step, hcl, sliceVia, call, GA.BodyIter.D, e, Iter.step, hok, if_true, asSlice]
  -- the consuming adaptors return a value only: it is the deque's, and so (`step_refines`) the model's
  | fold =>
    exact Prod.ext (.trans (by simp only [GA.BodyIter.step, hcl, fold_via _ hci hcw, hca]; rfl) (step_refines it h .fold).1.symm) rfl
  | rfold =>
    exact Prod.ext (.trans (by simp only [GA.BodyIter.step, hcl, rfold_via _ hci, hca]; rfl) (step_refines it h .rfold).1.symm) rfl
  | count =>
    exact Prod.ext (.trans (by simp only [GA.BodyIter.step, hcl, count_via _ hci, hca]; rfl) (step_refines it h .count).1.symm) rfl
  | last =>
    exact Prod.ext (.trans (by simp only [GA.BodyIter.step, hcl, last_via _ hci, hca]; rfl) (step_refines it h .last).1.symm) rfl
  | foldSelf => exact Prod.ext ((fold_via it h hw).trans (step_refines it h .foldSelf).1.symm) rfl
  | rfoldSelf => exact Prod.ext ((rfold_via it h).trans (step_refines it h .rfoldSelf).1.symm) rfl
  | countSelf => exact Prod.ext ((count_via it h).trans (step_refines it h .countSelf).1.symm) rfl
  | lastSelf => exact Prod.ext ((last_via it h).trans (step_refines it h .lastSelf).1.symm) rfl

theorem run_eq (ops : List IOp) (it : Iter) (h : Inv it) (hw : it.slots.length < word) :
    GA.BodyIter.run it ops = Iter.run it ops := by
  induction ops generalizing it with
  | nil => rfl
  | cons op ops ih =>
    obtain ⟨_, _, c⟩ := step_refines it h op
    have hl := step_len it h op
    simp only [GA.BodyIter.run, Iter.run, step_eq it h hw op]
    rw [ih _ c (by rw [hl]; exact hw)]

/-- **C06 on the interpreted bodies.**  For every operation sequence from every state satisfying
    the representation invariant (array length below `2^64`, as every `usize` is), interpreting
    the bodies of `next`, `next_back`, `nth`, `nth_back`, `len`, `size_hint`, `as_slice`,
    `as_mut_slice`, `clone`, `fold`, `rfold`, `count`, `last` and `Debug::fmt` as translated from
    the current source returns what the list-deque returns, call by call. -/
theorem C06_body_run_refines (ops : List IOp) (it : Iter) (h : Inv it) (hw : it.slots.length < word) :
    (GA.BodyIter.run it ops).1 = (Spec.run (abs it) ops).1 ∧
    abs (GA.BodyIter.run it ops).2 = (Spec.run (abs it) ops).2 ∧ Inv (GA.BodyIter.run it ops).2 := by
  rw [run_eq ops it h hw]
  exact C06.run_refines ops it h

/-- `into_iter()` as translated: the whole array is live, and from there every sequence refines -/
theorem C06_body_into_iter (l : List Nat) (hw : l.length < word) (ops : List IOp) :
    GA.BodyIter.intoIter l = some (Iter.ofList l) ∧
    (GA.BodyIter.run (Iter.ofList l) ops).1 = (Spec.run l ops).1 := by
  obtain ⟨hi, ha⟩ := ofList_inv l
  constructor
  · have hb := intoIter_body l (vctx l.length l) rfl
    simp only [Prod.mk.injEq] at hb
    simp only [GA.BodyIter.intoIter, GA.BodyIter.D, hb.2.1]
    exact congrArg some hb.2.2
  · have := (C06_body_run_refines ops (Iter.ofList l) hi (by simpa [Iter.ofList] using hw)).1
    rwa [ha] at this

/-- **`nth` as translated**: whichever destructor panics, the destructors run inside `nth`, the
    element handed to the caller and what the iterator's `Drop` (also as translated) releases
    afterwards are pairwise distinct, and together exactly the live elements. -/
theorem C05_body_nth (it : Iter) (h : Inv it) (hw : it.slots.length < word) (hnd : it.slots.Nodup) (n : Nat) (c : Ctx) :
    let r := runFn c Gen.Body.dropIter.body Gen.Body.nth [.nat n] (ofIter it)
    let d := runFn c Gen.Body.dropIter.body Gen.Body.dropIter [] r.2.2
    let tr := r.1 ++ retGive r.2.1
    (drops tr ++ gives tr ++ drops d.1).Nodup ∧ drops tr ++ gives tr ++ drops d.1 = abs it := by
  have hb := nth_body it n h hw c
  obtain ⟨hp, _, hinv⟩ := GA.IterOwn.nthD_partition it h n c.bad
  have hd := drop_body _ hinv c
  simp only [Prod.mk.injEq] at hb hd
  simp only [hb.1, hb.2.2, hd.1]
  exact ⟨by rw [hp]; exact GA.IterOwn.abs_nodup it hnd, hp⟩

theorem C05_body_nth_back (it : Iter) (h : Inv it) (hnd : it.slots.Nodup) (n : Nat) (c : Ctx) :
    let r := runFn c Gen.Body.dropIter.body Gen.Body.nthBack [.nat n] (ofIter it)
    let d := runFn c Gen.Body.dropIter.body Gen.Body.dropIter [] r.2.2
    let tr := r.1 ++ retGive r.2.1
    (drops tr ++ gives tr ++ drops d.1).Nodup ∧ (drops tr ++ gives tr ++ drops d.1).Perm (abs it) := by
  have hb := nthBack_body it n h c
  obtain ⟨hp, _, hinv⟩ := GA.IterOwn.nthBackD_partition it h n c.bad
  have hd := drop_body _ hinv c
  simp only [Prod.mk.injEq] at hb hd
  simp only [hb.1, hb.2.2, hd.1]
  exact ⟨(hp.nodup_iff).mpr (GA.IterOwn.abs_nodup it hnd), hp⟩

/-- `last` / `count` / plain drop of the iterator, as translated: each live element's destructor
    runs at most once whichever destructor panics -/
theorem C05_body_last_count_drop (it : Iter) (h : Inv it) (hnd : it.slots.Nodup) (c : Ctx) :
    (let r := runFn c Gen.Body.dropIter.body Gen.Body.last [] (ofIter it)
     (drops (retGive r.2.1 ++ r.1) ++ gives (retGive r.2.1 ++ r.1)).Nodup) ∧
    (drops (runFn c Gen.Body.dropIter.body Gen.Body.count [] (ofIter it)).1).Nodup ∧
    (drops (runFn c Gen.Body.dropIter.body Gen.Body.dropIter [] (ofIter it)).1).Nodup := by
  refine ⟨?_, ?_, ?_⟩
  · have hb := congrArg Prod.fst (last_body it h c)
    simp only at hb
    simp only [hb]
    obtain ⟨hp, _⟩ := GA.IterOwn.lastD_partition it h c.bad
    have := (hp.nodup_iff).mpr (GA.IterOwn.abs_nodup it hnd)
    exact (List.nodup_append.mp this).1
  · have hb := congrArg Prod.fst (count_body it h c)
    simp only at hb
    simp only [hb, GA.IterOwn.countD]
    rw [GA.IterOwn.dropIter_eq]; exact GA.IterOwn.abs_nodup it hnd
  · have hb := congrArg Prod.fst (drop_body it h c)
    simp only at hb
    simp only [hb]
    rw [GA.IterOwn.dropIter_eq]; exact GA.IterOwn.abs_nodup it hnd

theorem callsSpec_ledger (f : Nat → Bool) : ∀ (xs : List Nat) (k : Nat),
    gives (callsSpec f xs k).1 = xs.take (callsSpec f xs k).2.2 ∧ drops (callsSpec f xs k).1 = [] ∧
    uninitDrops (callsSpec f xs k).1 = 0
  | [], _ => by simp [callsSpec]
  | x :: xs, k => by
    obtain ⟨a, b, c⟩ := callsSpec_ledger f xs (k + 1)
    unfold callsSpec
    by_cases hf : f k
    · simp [hf, gives, drops, uninitDrops]
    · simp only [hf, Bool.false_eq_true, if_false, gives, drops, uninitDrops, List.take_succ_cons, a, b, c]
      exact ⟨trivial, trivial, trivial⟩

/-- `fold` and `rfold` differ only in the order in which the iterator releases what the calls left:
    `tail` is that, in either order -/
theorem callsThenDrop_ledger (f : Nat → Bool) (xs tail : List Nat) (k : Nat)
    (ht : tail.Perm (xs.drop (callsSpec f xs k).2.2)) :
    let e := (callsSpec f xs k).1 ++ if (callsSpec f xs k).2.1 then [] else tail.map .drop
    (gives e ++ drops e).Perm xs ∧ (tail = xs.drop (callsSpec f xs k).2.2 → gives e ++ drops e = xs) ∧
      uninitDrops e = 0 := by
  obtain ⟨a, b, u⟩ := callsSpec_ledger f xs k
  by_cases hok : (callsSpec f xs k).2.1 = true
  · simp [hok, a, b, u, callsSpec_full f xs k hok]
  · simp only [hok, Bool.false_eq_true, if_false, gives_append, drops_append, uninit_append, a, b, u, drops_map_drop,
      gives_map_drop, uninit_map_drop, List.append_nil, List.nil_append]
    exact ⟨(List.Perm.append_left _ ht).trans (by rw [List.take_append_drop]), fun h => by rw [h, List.take_append_drop],
      trivial⟩

/-- **`fold` as translated**: for every position of the iterator and every call index at which the
    caller's closure panics (or none), each live element is handed to the closure or dropped by
    the unwinding iterator — exactly once, in order — and no uninitialised slot is dropped. -/
theorem C04_body_fold (it : Iter) (h : Inv it) (hw : it.slots.length < word) (c : Ctx) (hb : c.bad = none) :
    let r := runFn c Gen.Body.dropIter.body Gen.Body.fold [] (ofIter it)
    gives r.1 ++ drops r.1 = abs it ∧ uninitDrops r.1 = 0 ∧ r.2.1 ≠ R.ub := by
  have hf := fold_body it h hw c hb
  obtain ⟨_, l2, l3⟩ := callsThenDrop_ledger c.fpan (abs it) _ 0 (.refl _)
  obtain ⟨e1, e2⟩ := Prod.mk.inj hf
  simp only [e1, e2, foldSpec]
  exact ⟨l2 rfl, l3, by by_cases hok : (callsSpec c.fpan (abs it) 0).2.1 = true <;> simp [hok]⟩

/-- **`rfold` as translated**: the same ledger, over the reversed live range -/
theorem C04_body_rfold (it : Iter) (h : Inv it) (c : Ctx) (hb : c.bad = none) :
    let r := runFn c Gen.Body.dropIter.body Gen.Body.rfold [] (ofIter it)
    (gives r.1 ++ drops r.1).Perm (abs it) ∧ uninitDrops r.1 = 0 ∧ r.2.1 ≠ R.ub := by
  have hf := rfold_body it h c hb
  obtain ⟨l1, _, l3⟩ := callsThenDrop_ledger c.fpan (abs it).reverse _ 0 (List.reverse_perm _)
  obtain ⟨e1, e2⟩ := Prod.mk.inj hf
  simp only [e1, e2, rfoldSpec]
  exact ⟨l1.trans (List.reverse_perm _), l3, by by_cases hok : (callsSpec c.fpan (abs it).reverse 0).2.1 = true <;> simp [hok]⟩

theorem cloneCalls_ledger (cl : Nat → Option Nat) : ∀ (xs : List Nat) (k : Nat),
    takes (cloneCalls cl xs k).1 = (cloneCalls cl xs k).2.2 ∧ drops (cloneCalls cl xs k).1 = [] ∧
    gives (cloneCalls cl xs k).1 = [] ∧ uninitDrops (cloneCalls cl xs k).1 = 0
  | [], _ => by simp [cloneCalls]
  | x :: xs, k => by
    obtain ⟨a, b, c, d⟩ := cloneCalls_ledger cl xs (k + 1)
    unfold cloneCalls
    cases hc : cl k with
    | none => simp [takes, drops, gives, uninitDrops]
    | some y => simp [takes, drops, gives, uninitDrops, a, b, c, d]

theorem takes_append' (a b : List Ev) : takes (a ++ b) = takes a ++ takes b := takes_append a b
theorem takes_map_drop' (l : List Nat) : takes (l.map Ev.drop) = [] := takes_map_drop l

/-- **`Clone::clone` as translated**: whichever `T::clone` call panics, every clone the library
    received is either in the returned iterator or dropped — exactly once; the source's elements
    are only lent; the source iterator is left as it was. -/
theorem C04_body_clone (it : Iter) (h : Inv it) (hw : it.slots.length < word) (c : Ctx) (hb : c.bad = none) :
    let r := runFn c Gen.Body.dropIter.body Gen.Body.clone [] (ofIter it)
    let res := match r.2.1 with | .ret .obj => (sliceOf r.2.2.out.slots r.2.2.out.index r.2.2.out.indexBack) | _ => []
    drops r.1 ++ res = takes r.1 ∧ gives r.1 = [] ∧ uninitDrops r.1 = 0 ∧ r.2.1 ≠ R.ub := by
  obtain ⟨hf, hout⟩ := clone_body it h hw c hb
  obtain ⟨e1, e2⟩ := Prod.mk.inj hf
  obtain ⟨a, b, g, u⟩ := cloneCalls_ledger c.cl (abs it) 0
  have hlen := cloneCalls_len c.cl (abs it) 0
  have hal := abs_length it h
  by_cases hok : (cloneCalls c.cl (abs it) 0).2.1 = true
  · have hs : (cloneSpec c.cl (abs it)).2 = some (cloneCalls c.cl (abs it) 0).2.2 := by simp [cloneSpec, hok]
    simp [e1, e2, (hout _ hs).1, cloneSpec, hok, a, b, g, u, sliceOf,
      setMany_eq (cloneCalls c.cl (abs it) 0).2.2 it.slots 0 (by have := h.2; have := h.1; omega)]
  · simp [e1, e2, cloneSpec, hok, a, b, g, u]

/-- The three guards release exactly the range the ownership model charges them with:
    a builder `array[..position]`, a consumer `array[position..]`; `finish()` releases nothing;
    `is_full()` is `position == N`. -/
theorem C03_body_guards (slots : List Nat) (pos : Nat) (h : pos ≤ slots.length) (c : Ctx) (hb : c.bad = none) :
    drops (runFn c Gen.Body.intrusiveDrop.body Gen.Body.intrusiveDrop [] (ofBuilder slots pos)).1 = slots.take pos ∧
    drops (runFn c Gen.Body.builderDrop.body Gen.Body.builderDrop [] (ofBuilder slots pos)).1 = slots.take pos ∧
    drops (runFn c Gen.Body.consumerDrop.body Gen.Body.consumerDrop [] (ofBuilder slots pos)).1 = slots.drop pos ∧
    (runFn c Gen.Body.intrusiveDrop.body Gen.Body.intrusiveFinish [] (ofBuilder slots pos)).1 = [] ∧
    (runFn c Gen.Body.intrusiveDrop.body Gen.Body.intrusiveIsFull [] (ofBuilder slots pos)).2.1
      = R.ret (.bool (decide (pos = c.n))) := by
  have a := intrusiveDrop_body slots pos h c hb
  have b := builderDrop_body slots pos h c hb
  have d := consumerDrop_body slots pos 0 h c hb
  have e := finish_body slots pos c
  simp only [Prod.mk.injEq] at a b d e
  simp only [a.1, b.1, d.1, e.1, Consumer.dropEv, drops_map_drop, (isFull_body slots pos c).1, and_self]

example : Iter.Inv ⟨[10, 11, 12, 13, 14], 1, 4⟩ := by unfold Iter.Inv; decide
example : (GA.BodyIter.run (Iter.ofList [10, 11, 12, 13, 14]) [.nth 1, .nextBack, .nthBack 5, .next, .len]).1 =
    [.item (some 11), .item (some 14), .item none, .item none, .num 0] := by decide
/-- `nth(2)` with the destructor of element 0 panicking: the translated body drops 0 and 1 once and
    leaves the iterator at index 2, so its `Drop` releases 2, 3, 4 only (the repaired defect F1) -/
example :
    let c : Ctx := ⟨5, some 0, fun _ => false, fun _ => none, fun _ => .done, (0, none), {}⟩
    let r := runFn c Gen.Body.dropIter.body Gen.Body.nth [.nat 2] (ofIter ⟨[0, 1, 2, 3, 4], 0, 5⟩)
    (drops r.1, r.2.1, r.2.2.self.index) = ([0, 1], R.panicked, 2) := by decide
/-- `clone()` with `T::clone` panicking on its third call: the two clones made are dropped (the
    repaired defect F2) -/
example :
    let c : Ctx := ⟨4, none, fun _ => false, fun k => if k = 2 then none else some (1000 + k), fun _ => .done, (0, none), {}⟩
    let r := runFn c Gen.Body.dropIter.body Gen.Body.clone [] (ofIter ⟨[0, 1, 2, 3], 0, 4⟩)
    (drops r.1, takes r.1, r.2.1) = ([1000, 1001], [1000, 1001], R.panicked) := by decide

end GA.Props.Body

#print axioms GA.Props.Body.step_eq
#print axioms GA.Props.Body.C06_body_run_refines
#print axioms GA.Props.Body.C06_body_into_iter
#print axioms GA.Props.Body.C05_body_nth
#print axioms GA.Props.Body.C05_body_nth_back
#print axioms GA.Props.Body.C05_body_last_count_drop
#print axioms GA.Props.Body.C04_body_fold
#print axioms GA.Props.Body.C04_body_rfold
#print axioms GA.Props.Body.C04_body_clone
#print axioms GA.Props.Body.C03_body_guards
