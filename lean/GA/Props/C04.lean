import GA.Lemmas.Ops
import GA.Lemmas.IterOwn
import GA.Bridge.Iter
import GA.Bridge.IterOwn
/-!
# C04 — a panic in caller-supplied code never loses or double-drops an element

Caller code is `f : Nat → Option Id` (call index ↦ returned value, `none` = panic on that call) and
is universally quantified, so each theorem covers *every* panic index at once.  The ledger
`gives ++ drops ++ result ~ inputs ++ takes` says: every element that ever existed — inputs and
everything caller code returned — is exactly once handed to caller code by value, dropped, or part
of the returned array; `uninitDrops = 0` says no never-written slot is dropped or returned.
-/
namespace GA.Props.C04
open GA.Own GA.Ops GA.Gen

/-- `GA.Own.Moves r.1 inputs r.2.ids` spelt out: a `Moves` term proves it as it stands -/
def Ledger (inputs : List Id) (r : List Ev × Res) : Prop :=
  (gives r.1 ++ drops r.1 ++ r.2.ids).Perm (inputs ++ takes r.1) ∧ uninitDrops r.1 = 0

/-- `generate` (also `Default`): for every generator, panicking at any index or never. -/
theorem generate_ledger (f : Nat → Option Id) (n : Nat) : Ledger [] (generate f n) := by
  have h := (fillLoop_moves (genSrc_contract f) rfl n 0 trivial []).1
  unfold generate
  rw [Bridge.Lib.generateWriteBeforeCount_eq]
  rcases fillLoop_gen_cases true f n 0 [] with ⟨tr, o, j, hf, -⟩ | ⟨tr, hf⟩ <;> rw [hf] at h ⊢
  · simp only [FillRes.ids, FillRes.rest, List.append_nil] at h; exact h
  · exact h

/-- no partially filled array is ever returned by `generate`: `Ok` means all `n` slots written -/
theorem generate_complete (f : Nat → Option Id) (n : Nat) (arr : List Id)
    (h : (generate f n).2 = .ok arr) : arr.length = n := by
  unfold generate at h
  rcases fillLoop_gen_cases Lib.generateWriteBeforeCount f n 0 [] with ⟨tr, o, j, hf, hl⟩ | ⟨tr, hf⟩ <;>
    rw [hf] at h <;> cases h
  simpa using hl

def ownedInputs (form : Form) (xs : List Id) : List Id :=
  if form = .ref ∨ form = .mutRef then [] else xs

/-- `sd` is position-correct and owns exactly what an operand of form `form` hands over by value -/
def HoldsOperand (sd : Side) (form : Form) : Prop :=
  sd.Good ∧ ∀ xs, sd.ownedOf (Consumer.ofList xs) = ownedInputs form xs

theorem holdsOperand_consumer (pn : Nat → Nat → Nat) (adv : Bool) (h1 : adv = true) (h2 : ∀ p, pn p p = p + 1) :
    HoldsOperand (.consumer pn adv) .owned := ⟨⟨h1, h2⟩, fun _ => rfl⟩

theorem holdsOperand_sideOf (form : Form) : HoldsOperand (sideOf form) form := by
  cases form <;> exact ⟨trivial, fun _ => rfl⟩

theorem mapSide_holds (form : Form) : HoldsOperand (mapSide form) form := by
  cases form with
  | owned => exact holdsOperand_consumer _ _ Bridge.Lib.mapAdvBeforeCall_eq Bridge.Lib.mapPosNew_eq
  | _ => exact ⟨trivial, fun _ => rfl⟩

/-- `map` for every receiver form (owned, `&`, `&mut`, `Box`) and every closure. -/
theorem map_ledger (form : Form) (f : Nat → Option Id) (xs : List Id) :
    Ledger (if form = .ref ∨ form = .mutRef then [] else xs) (mapOp form f xs) := by
  obtain ⟨hg, ho⟩ := mapSide_holds form
  rw [mapOp_eq, ← ownedInputs, ← ho]
  exact fromIter_moves (mapSrc_contract _ hg f) rfl _ _ _ rfl

/-- `Clone` (element `Clone::clone` panicking at any index) -/
theorem clone_ledger (f : Nat → Option Id) (xs : List Id) : Ledger [] (cloneOp f xs) := by
  have := map_ledger .ref f xs
  simpa [cloneOp] using this

/-- the sides the dispatch selects hold their operands correctly when both element types need drop -/
theorem zipSides_holds (fa fb : Form) :
    HoldsOperand (zipSides fa fb true true).1 fa ∧ HoldsOperand (zipSides fa fb true true).2 fb := by
  unfold zipSides
  split
  · simp only [Bridge.Lib.izipDropBranch_eq, Bool.or_self, if_true]
    exact ⟨holdsOperand_consumer _ _ Bridge.Lib.izipLeftAdvBeforeCall_eq Bridge.Lib.izipLeftPosNew_eq,
      holdsOperand_consumer _ _ Bridge.Lib.izipRightAdvBeforeCall_eq Bridge.Lib.izipRightPosNew_eq⟩
  · exact ⟨holdsOperand_consumer _ _ Bridge.Lib.defIzipLeftAdvBeforeCall_eq Bridge.Lib.defIzipLeftPosNew_eq, holdsOperand_sideOf _⟩
  · simp only [Bridge.Lib.izip2DropBranch_eq, if_true]
    exact ⟨holdsOperand_sideOf _, holdsOperand_consumer _ _ Bridge.Lib.izip2RightAdvBeforeCall_eq Bridge.Lib.izip2RightPosNew_eq⟩
  · exact ⟨holdsOperand_sideOf _, holdsOperand_sideOf _⟩

/-- `zip` for all sixteen receiver × argument forms (nine stack forms, the boxed ones) and every
    closure, for drop-tracked element types on both sides. -/
theorem zip_ledger (fa fb : Form) (f : Nat → Option Id) (xs ys : List Id) (hlen : xs.length = ys.length) :
    Ledger (ownedInputs fb ys ++ ownedInputs fa xs) (zipOp fa fb true true f xs ys) := by
  obtain ⟨⟨ga, ha⟩, gb, hb⟩ := zipSides_holds fa fb
  unfold zipOp
  -- `b`'s inputs first: the order of `Zip2.owned`, which is that of `zipSrc`'s destructor
  rw [collectFrags_eq, ← ha, ← hb]
  exact fromIter_moves (zipSrc_contract _ _ f ga gb) rfl _ _ _ ⟨rfl, rfl, rfl, hlen⟩

theorem foldSide_holds (form : Form) : HoldsOperand (foldSide form) form := by
  cases form with
  | owned => exact holdsOperand_consumer _ _ Bridge.Lib.foldAdvBeforeCall_eq Bridge.Lib.foldPosNew_eq
  | _ => exact ⟨trivial, fun _ => rfl⟩

/-- `fold` for every receiver form; `f i = false` = the closure panics on call `i`: every element
    handed over by value was given to the closure or dropped, exactly once. -/
theorem fold_ledger (form : Form) (f : Nat → Bool) (xs : List Id) :
    (gives (foldOp form f xs).1 ++ drops (foldOp form f xs).1).Perm
        (ownedInputs form xs ++ takes (foldOp form f xs).1) ∧
      uninitDrops (foldOp form f xs).1 = 0 := by
  obtain ⟨hg, ho⟩ := foldSide_holds form
  have hc := foldSrc_contract _ hg f
  have hm := foldLoop_moves hc rfl (xs.length + 1) (Consumer.ofList xs) rfl
  rw [ho] at hm
  suffices h : Moves (foldOp form f xs).1 (ownedInputs form xs) [] from ⟨by simpa using h.1, h.2⟩
  unfold foldOp
  split at hm <;> rename_i hok
  · simp only [hok, if_true]; exact hm.append (hc.moves_drop _)
  · simp only [hok, Bool.false_eq_true, if_false, List.append_nil]; exact hm

/-- collecting from a user iterator that may panic at any poll, lie in its size hint, or be unfused:
    stack and boxed forms, `try_from_iter` and `from_iter`. -/
theorem collect_ledger (boxed try_ : Bool) (n : Nat) (hint : Nat × Option Nat) (sc : Script) :
    Ledger [] (collectOp boxed try_ n hint sc) := by
  unfold collectOp
  rw [collectFrags_eq]
  split
  · exact tryFromIter_moves scriptSrc_contract rfl n hint sc trivial
  · exact fromIter_moves scriptSrc_contract rfl n hint sc trivial

theorem foldLoop_takes_nil (sd : Side) (f : Nat → Bool) (k : Nat) (c : Consumer) :
    takes (foldLoop (foldSrc sd f) k c).1 = [] :=
  foldLoop_trace (P := fun _ t => takes t = []) rfl (fun _ _ a b ha hb => by rw [takes_append, ha, hb]; rfl)
    (fun _ _ _ _ h => h) (fun c => by
      simp only [foldSrc]
      split
      · rfl
      · split <;> cases sd.owns <;> rfl)
    (fun c => (congrArg takes (side_dropEv sd c)).trans (takes_map_drop _)) k c

theorem foldOp_takes (form : Form) (f : Nat → Bool) (xs : List Id) : takes (foldOp form f xs).1 = [] := by
  unfold foldOp
  rw [takes_append, foldLoop_takes_nil]
  split
  · exact (congrArg takes (side_dropEv ..)).trans (takes_map_drop _)
  · rfl

theorem fold_ok_exhausts (sd : Side) (hg : sd.Good) (f : Nat → Bool) (k : Nat) (c : Consumer) (hs : c.Sync)
    (hk : c.slots.length - c.idx < k) (hok : (foldLoop (foldSrc sd f) k c).2.1 = true) :
    sd.ownedOf (foldLoop (foldSrc sd f) k c).2.2 = [] := by
  induction k generalizing c with
  | zero => exact absurd hk (Nat.not_lt_zero _)
  | succ k ih =>
    cases hx : c.slots[c.idx]? with
    | none =>
      have hs' : (foldSrc sd f).step c = .done [] c := by simp only [foldSrc, hx]
      simp only [foldLoop, hs']
      have : c.slots.drop c.pos = [] := hs ▸ drop_of_getElem?_none hx
      cases sd with
      | borrowed | manual => rfl
      | _ => exact this
    | some x =>
      cases hf : f c.idx with
      | false =>
        have hs' : (foldSrc sd f).step c = .panic [arg sd.owns c.idx x, .panic c.idx] (sd.after c c.pos false) := by
          simp only [foldSrc, hx, hf, Bool.false_eq_true, if_false]
        simp only [foldLoop, hs'] at hok
        cases hok
      | true =>
        have hs' : (foldSrc sd f).step c = .yield [arg sd.owns c.idx x] x (sd.after c c.pos true) := by
          simp only [foldSrc, hx, hf, if_true]
        obtain ⟨-, hsync, -⟩ := sd.moves_read hg c hs true hx c.pos rfl
        obtain ⟨i1, i2⟩ := side_after_idx sd c c.pos true
        simp only [foldLoop, hs'] at hok ⊢
        exact ih _ hsync (by rw [i1, i2]; have := (List.getElem?_eq_some_iff.mp hx).1; omega) hok

theorem consumer_fold_ledger (pn : Nat → Nat → Nat) (hp : ∀ p, pn p p = p + 1) (f : Nat → Bool) (l : List Id) :
    let tr := (foldLoop (foldSrc (.consumer pn true) f) (l.length + 1) (Consumer.ofList l)).1
    (gives tr ++ drops tr).Perm l ∧ uninitDrops tr = 0 := by
  have hg : (Side.consumer pn true).Good := ⟨rfl, hp⟩
  have h : Moves _ l _ := foldLoop_moves (foldSrc_contract _ hg f) rfl (l.length + 1) (Consumer.ofList l) rfl
  -- a closure that never panicked has read the consumer to the end: nothing is left in it
  have he := fold_ok_exhausts _ hg f (l.length + 1) (Consumer.ofList l) rfl (by simp [Consumer.ofList])
  split at h <;> rename_i hok
  · rw [he hok] at h
    exact ⟨by simpa [foldLoop_takes_nil] using h.1, h.2⟩
  · exact ⟨by simpa [foldLoop_takes_nil] using h.1, h.2⟩

/-- `GenericArrayIter::fold` with a closure that panics at any call (the iterator, still owned by
    the frame, is dropped while unwinding): every remaining element is given or dropped once -/
theorem iter_fold_ledger (it : GA.Iter.Iter) (f : Nat → Bool) :
    (gives (GA.IterOwn.foldD it f).1 ++ drops (GA.IterOwn.foldD it f).1).Perm (GA.Iter.abs it) ∧
      uninitDrops (GA.IterOwn.foldD it f).1 = 0 := by
  unfold GA.IterOwn.foldD GA.Iter.abs
  simp only [ga_bridge]
  exact consumer_fold_ledger _ (fun _ => rfl) f _

/-- `GenericArrayIter::rfold`, likewise (the elements are visited back to front) -/
theorem iter_rfold_ledger (it : GA.Iter.Iter) (f : Nat → Bool) :
    (gives (GA.IterOwn.rfoldD it f).1 ++ drops (GA.IterOwn.rfoldD it f).1).Perm (GA.Iter.abs it) ∧
      uninitDrops (GA.IterOwn.rfoldD it f).1 = 0 := by
  unfold GA.IterOwn.rfoldD GA.Iter.abs
  simp only [ga_bridge]
  generalize GA.Iter.sliceOf it.slots it.front it.back = live
  -- the position the regenerated closure stores is `p + (len - (len - 1))`: `p + 1` only for a non-empty range
  cases hl : live with
  | nil => simp [foldLoop, foldSrc, Consumer.ofList]
  | cons x t =>
    rw [← hl]
    have hpos : 0 < live.reverse.length := by rw [hl]; simp
    have := consumer_fold_ledger (fun p _ => p + (live.reverse.length - (live.reverse.length - 1)))
      (fun p => by rw [Nat.sub_sub_self hpos]) f live.reverse
    exact ⟨this.1.trans (List.reverse_perm _), this.2⟩

/-- `Clone for GenericArrayIter` with an element `clone` that panics at any index: the clones made
    so far are dropped exactly once, the originals are only lent -/
theorem iter_clone_ledger (it : GA.Iter.Iter) (f : Nat → Option Id) :
    (drops (GA.IterOwn.cloneD it f).1 ++ (GA.IterOwn.cloneD it f).2.ids).Perm (takes (GA.IterOwn.cloneD it f).1) ∧
      gives (GA.IterOwn.cloneD it f).1 = [] ∧ uninitDrops (GA.IterOwn.cloneD it f).1 = 0 := by
  unfold GA.IterOwn.cloneD
  rw [GA.Bridge.IterOwn.cloneGuarded_eq]
  obtain ⟨⟨hp, hu⟩, hg⟩ := GA.IterOwn.cloneLoop_moves f (GA.Iter.asSlice it) 0 []
  rw [hg] at hp
  exact ⟨hp, hg, hu⟩

/-! The property distinguishes: if a consumer's position were stored *after* the closure call
    (the mutation the anchors warn about), an element handed to a panicking closure would also be
    dropped by the consumer — refuted by evaluation. -/
example : ¬ Ledger [0, 1, 2]
    (fromIter canonFrags (mapSrc (.consumer (fun p _ => p + 1) false) (fun i => if i = 1 then none else some (100 + i)))
      3 (3, some 3) (Consumer.ofList [0, 1, 2])) := by
  unfold Ledger; decide
example : (mapOp .owned (fun i => if i = 2 then none else some (100 + i)) [0, 1, 2, 3]).2 = .panicked := by decide

end GA.Props.C04

#print axioms GA.Props.C04.generate_ledger
#print axioms GA.Props.C04.generate_complete
#print axioms GA.Props.C04.map_ledger
#print axioms GA.Props.C04.clone_ledger
#print axioms GA.Props.C04.zip_ledger
#print axioms GA.Props.C04.fold_ledger
#print axioms GA.Props.C04.collect_ledger
#print axioms GA.Props.C04.iter_fold_ledger
#print axioms GA.Props.C04.iter_rfold_ledger
#print axioms GA.Props.C04.iter_clone_ledger
