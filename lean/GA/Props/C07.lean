import GA.Lemmas.Ops
import GA.Props.C04
/-!
# C07 — collecting from an iterator yields an array only for exactly N items

The source is a script: the list of answers its `next()` calls will give (`none` may be followed by
`some` again — not fused), any `size_hint` (truthful or lying), optionally one poll that panics.
`collectOp boxed try_` is `try_from_iter` / `from_iter`, stack or boxed, with the conditions
regenerated from src/lib.rs, src/internal.rs and src/impl_alloc.rs.
-/
namespace GA.Props.C07
open GA.Own GA.Ops GA.Gen

theorem step_some (x : Id) (t : List (Option Id)) (j : Nat) :
    scriptSrc.step ⟨some x :: t, j, none⟩ = .yield [.poll j, .take j x] x ⟨t, j + 1, none⟩ := rfl
theorem step_none (t : List (Option Id)) (j : Nat) :
    scriptSrc.step ⟨none :: t, j, none⟩ = .done [.poll j] ⟨t, j + 1, none⟩ := rfl
theorem step_nil (j : Nat) :
    scriptSrc.step ⟨[], j, none⟩ = .done [.poll j] ⟨[], j + 1, none⟩ := rfl

theorem script_yields (rest : List (Option Id)) (j : Nat) (items : List Id) (s : Script) :
    Yields scriptSrc ⟨rest, j, none⟩ items s ↔
      rest.take items.length = items.map some ∧ s = ⟨rest.drop items.length, j + items.length, none⟩ := by
  exact yields_scripted scriptSrc (fun l j => ⟨l, j, none⟩) some (fun x t j => ⟨_, step_some x t j⟩)
    (fun l j evs x s' h => by
      cases l with
      | nil => cases h
      | cons a t =>
        cases a with
        | none => cases h
        | some y => cases h; exact ⟨t, rfl⟩) rest j items s

/-- **Ok only for exactly N items, in order** — for every N, every script, every size hint. -/
theorem ok_iff (n : Nat) (hint : Nat × Option Nat) (answers : List (Option Id)) (arr : List Id) :
    (tryFromIter canonFrags scriptSrc n hint ⟨answers, 0, none⟩).2 = .ok arr ↔
      hintReject canonFrags hint n = false ∧ arr.length = n ∧ answers.take n = arr.map some ∧
      (∀ x, answers[n]? ≠ some (some x)) := by
  rw [tryFromIter_ok_iff]
  refine and_congr_right fun _ => and_congr_right fun hl => ?_
  simp only [script_yields, hl, Nat.zero_add]
  -- after the `n` items the script says it has ended iff its next answer is not an item
  have hn : answers[n]? = (answers.drop n).head? := by simp [List.head?_drop]
  rw [hn]
  constructor
  · rintro ⟨_, evs, s', ⟨ht, rfl⟩, hd⟩
    refine ⟨ht, fun x hx => ?_⟩
    cases hr : answers.drop n with
    | nil => rw [hr] at hx; cases hx
    | cons a t => rw [hr] at hx hd; cases hx; rw [step_some] at hd; cases hd
  · rintro ⟨ht, hx⟩
    cases hr : answers.drop n with
    | nil => exact ⟨_, _, _, ⟨ht, rfl⟩, step_nil n⟩
    | cons a t =>
      cases a with
      | none => exact ⟨_, _, _, ⟨ht, rfl⟩, step_none t n⟩
      | some x => rw [hr] at hx; exact absurd rfl (hx x)

/-- a source with a truthful size hint that produces exactly N items is accepted -/
theorem truthful_complete (n : Nat) (items : List Id) (hl : items.length = n) (hint : Nat × Option Nat)
    (hlo : hint.1 ≤ n) (hhi : ∀ h, hint.2 = some h → n ≤ h) (tail : List (Option Id)) :
    (tryFromIter canonFrags scriptSrc n hint ⟨items.map some ++ none :: tail, 0, none⟩).2 = .ok items := by
  rw [ok_iff]
  refine ⟨?_, hl, ?_, ?_⟩
  · unfold hintReject canonFrags
    rcases hint with ⟨lo, hi⟩
    cases hi with
    | none => simp at hlo ⊢; omega
    | some h => have := hhi h rfl; simp at hlo ⊢; omega
  · rw [List.take_append_of_le_length (by simp [hl])]; exact List.take_of_length_le (by simp [hl])
  · intro x; rw [List.getElem?_append_right (by simp [hl])]; simp [hl]

theorem script_drop_polls (s : Script) : polls (scriptSrc.dropEv s) = 0 := rfl
theorem script_owns : scriptSrc.owns = true := rfl

/-- **At most N + 1 polls**, whatever the source does (lying hints, not fused, panicking): every step of the
    script polls once, and dropping items or the source polls nothing. -/
theorem polls_le (n : Nat) (hint : Nat × Option Nat) (sc : Script) :
    polls (tryFromIter canonFrags scriptSrc n hint sc).1 ≤ n + 1 :=
  tryFromIter_trace (S := scriptSrc) (P := fun k t => polls t ≤ k) (Nat.le_refl 0)
    (fun _ _ a b ha hb => by rw [polls_append]; exact Nat.add_le_add ha hb) (fun _ _ _ hij h => Nat.le_trans h hij)
    (fun s => by
      simp only [scriptSrc]
      split
      · exact Nat.le_refl 1
      · split <;> exact Nat.le_refl 1)
    (fun s => Nat.le_of_eq (script_drop_polls s)) (fun l => Nat.le_of_eq (polls_map_drop l)) n hint sc

/-- every pulled item is in the result or dropped exactly once, on every path — and the boxed form
    and `from_iter` are the same function of the script (same result class, items, polls) -/
theorem pulled_ledger (boxed try_ : Bool) (n : Nat) (hint : Nat × Option Nat) (sc : Script) :
    C04.Ledger [] (collectOp boxed try_ n hint sc) := C04.collect_ledger boxed try_ n hint sc

theorem boxed_agrees (try_ : Bool) (n : Nat) (hint : Nat × Option Nat) (sc : Script) :
    collectOp true try_ n hint sc = collectOp false try_ n hint sc := by
  unfold collectOp; simp only [collectFrags_eq]

/-- `from_iter` / `collect` panic with the length message exactly when `try_from_iter` says `Err` -/
theorem from_iter_panics_iff (n : Nat) (hint : Nat × Option Nat) (sc : Script) :
    (Ev.lenFail ∈ (fromIter canonFrags scriptSrc n hint sc).1 ∧ (fromIter canonFrags scriptSrc n hint sc).2 = .panicked) ↔
      (tryFromIter canonFrags scriptSrc n hint sc).2 = .err ∨
      (Ev.lenFail ∈ (tryFromIter canonFrags scriptSrc n hint sc).1 ∧ (tryFromIter canonFrags scriptSrc n hint sc).2 = .panicked) := by
  unfold fromIter
  cases h : tryFromIter canonFrags scriptSrc n hint sc with
  | mk tr r => cases r <;> simp

example : (tryFromIter canonFrags scriptSrc 3 (0, none) ⟨[some 7, some 8, some 9, none], 0, none⟩).2 = .ok [7, 8, 9] := by rfl
example : (tryFromIter canonFrags scriptSrc 3 (0, none) ⟨[some 7, some 8, none, some 9], 0, none⟩).2 = .err := by decide
example : (tryFromIter canonFrags scriptSrc 3 (0, none) ⟨[some 7, some 8, some 9, some 1], 0, none⟩).2 = .err := by decide
example : (tryFromIter canonFrags scriptSrc 3 (4, none) ⟨[some 7, some 8, some 9, none], 0, none⟩).2 = .err := by decide

end GA.Props.C07

#print axioms GA.Props.C07.ok_iff
#print axioms GA.Props.C07.truthful_complete
#print axioms GA.Props.C07.polls_le
#print axioms GA.Props.C07.pulled_ledger
#print axioms GA.Props.C07.boxed_agrees
#print axioms GA.Props.C07.from_iter_panics_iff
