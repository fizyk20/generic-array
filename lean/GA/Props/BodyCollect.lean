import GA.Bridge.BodyCollect
import GA.Bridge.BodyGenerate
import GA.Bridge.BodyFold
import GA.Bridge.BodyMap
import GA.Props.C07
import GA.Props.C08
/-!
C07 on the *interpreted* bodies of `GenericArray::try_from_iter` and `FromIterator::from_iter`
(src/lib.rs, with `IntrusiveArrayBuilder::{new, extend, is_full, finish}` of src/internal.rs inlined),
over an arbitrary scripted caller iterator; C04 / C08 on those of `generate` and of
`FunctionalSequence::fold` and `map` on an owned array.
-/
namespace GA.Props.BodyCollect
open GA.Body GA.Own GA.Bridge.BodyCollect
open GA.Bridge.Body (foldSpec)

/-- the caller's iterator as the interpreter sees it: the script's answers, its `size_hint()` -/
def scriptCtx (n : Nat) (hint : Nat × Option Nat) (sc : Script) : Ctx :=
  { n := n, bad := none, fpan := fun _ => false, cl := fun _ => none, src := fun j => pollOf sc (j - sc.k), hint := hint }

def st0 (sc : Script) : St := ⟨⟨[], 0, 0, 0, []⟩, ⟨[], 0, 0, 0, []⟩, false, 0, false, sc.k, false, {}⟩

theorem scriptCtx_src (n : Nat) (hint : Nat × Option Nat) (sc : Script) (j : Nat) :
    (scriptCtx n hint sc).src (sc.k + j) = pollOf sc j := by
  simp [scriptCtx]

theorem try_run (n : Nat) (hn : n < word) (hint : Nat × Option Nat) (sc : Script) :
    let r := runFn (scriptCtx n hint sc) Gen.Body.intrusiveDrop.body Gen.Body.tryFromIter [] (st0 sc)
    (r.1, resOf r.2.1) = ((tryFromIter canonFrags scriptSrc n hint sc).1, some (tryFromIter canonFrags scriptSrc n hint sc).2) :=
  tryFromIter_body n hn hint sc (scriptCtx n hint sc) rfl rfl (scriptCtx_src n hint sc) rfl _

theorem from_run (n : Nat) (hn : n < word) (hint : Nat × Option Nat) (sc : Script) :
    let r := runFn (scriptCtx n hint sc) Gen.Body.intrusiveDrop.body Gen.Body.fromIter [] (st0 sc)
    (r.1, resOf r.2.1) = ((fromIter canonFrags scriptSrc n hint sc).1, some (fromIter canonFrags scriptSrc n hint sc).2) :=
  fromIter_body n hn hint sc (scriptCtx n hint sc) rfl rfl (scriptCtx_src n hint sc) rfl _

/-- **C07, `Ok` only for exactly N items, in order** — on the interpreted body, for every N below
    `2^64`, every script (fused or not), every size hint (truthful or not). -/
theorem C07_body_ok_iff (n : Nat) (hn : n < word) (hint : Nat × Option Nat) (answers : List (Option Id)) (arr : List Id) :
    resOf (runFn (scriptCtx n hint ⟨answers, 0, none⟩) Gen.Body.intrusiveDrop.body Gen.Body.tryFromIter []
        (st0 ⟨answers, 0, none⟩)).2.1 = some (.ok arr) ↔
      hintReject canonFrags hint n = false ∧ arr.length = n ∧ answers.take n = arr.map some ∧
      (∀ x, answers[n]? ≠ some (some x)) := by
  rw [(Prod.mk.inj (try_run n hn hint ⟨answers, 0, none⟩)).2, Option.some.injEq]
  exact GA.Props.C07.ok_iff n hint answers arr

/-- **at most N + 1 polls**, never one after the array is known to be over-full; every path -/
theorem C07_body_polls_le (n : Nat) (hn : n < word) (hint : Nat × Option Nat) (sc : Script) :
    polls (runFn (scriptCtx n hint sc) Gen.Body.intrusiveDrop.body Gen.Body.tryFromIter [] (st0 sc)).1 ≤ n + 1 := by
  rw [(Prod.mk.inj (try_run n hn hint sc)).1]
  exact GA.Props.C07.polls_le n hint sc

/-- **`from_iter` panics with the length message exactly when `try_from_iter` says `Err`** -/
theorem C07_body_from_iter (n : Nat) (hn : n < word) (hint : Nat × Option Nat) (sc : Script) :
    let f := runFn (scriptCtx n hint sc) Gen.Body.intrusiveDrop.body Gen.Body.fromIter [] (st0 sc)
    let t := runFn (scriptCtx n hint sc) Gen.Body.intrusiveDrop.body Gen.Body.tryFromIter [] (st0 sc)
    (Ev.lenFail ∈ f.1 ∧ resOf f.2.1 = some .panicked) ↔
      (resOf t.2.1 = some .err ∨ (Ev.lenFail ∈ t.1 ∧ resOf t.2.1 = some .panicked)) := by
  obtain ⟨hf1, hf2⟩ := Prod.mk.inj (from_run n hn hint sc)
  obtain ⟨ht1, ht2⟩ := Prod.mk.inj (try_run n hn hint sc)
  simp only [hf1, hf2, ht1, ht2, Option.some.injEq]
  exact GA.Props.C07.from_iter_panics_iff n hint sc

/-- **every pulled item is in the result or dropped exactly once**, on every path (Ok, too few,
    too many, rejected by the hint, a panic at any poll), and no never-written slot is dropped -/
theorem C07_body_ledger (n : Nat) (hn : n < word) (hint : Nat × Option Nat) (sc : Script) :
    let r := runFn (scriptCtx n hint sc) Gen.Body.intrusiveDrop.body Gen.Body.tryFromIter [] (st0 sc)
    ∃ res, resOf r.2.1 = some res ∧ (gives r.1 ++ drops r.1 ++ res.ids).Perm (takes r.1) ∧ uninitDrops r.1 = 0 := by
  have := GA.Props.C04.collect_ledger false true n hint sc
  simp only [GA.Ops.collectOp, GA.Ops.collectFrags, if_true, Bool.false_eq_true, if_false, GA.Ops.libFrags_eq] at this
  simpa using ledger_of_run (try_run n hn hint sc) this

def genCtx (n : Nat) (f : Nat → Option Id) : Ctx :=
  { n := n, bad := none, fpan := fun _ => false, cl := f }

def gst0 : St := ⟨⟨[], 0, 0, 0, []⟩, ⟨[], 0, 0, 0, []⟩, false, 0, false, 0, false, {}⟩

theorem gen_run (f : Nat → Option Id) (n : Nat) (hn : n < word) :
    let r := runFn (genCtx n f) Gen.Body.intrusiveDrop.body Gen.Body.generate [] gst0
    (r.1, resOf r.2.1) = ((GA.Ops.generate f n).1, some (GA.Ops.generate f n).2) :=
  generate_body (genCtx n f) hn rfl ⟨[], 0, 0, 0, []⟩

/-- **C08: `generate` applies the function once per index, in index order, and stores result `i`
    at position `i`** — on the interpreted body, for every N below `2^64` -/
theorem C08_body_generate (g : Nat → Id) (n : Nat) (hn : n < word) :
    let r := runFn (genCtx n fun i => some (g i)) Gen.Body.intrusiveDrop.body Gen.Body.generate [] gst0
    resOf r.2.1 = some (.ok ((List.range n).map g)) ∧
    GA.Func.rets r.1 = (List.range n).map (fun i => (i, g i)) := by
  obtain ⟨h1, h2⟩ := Prod.mk.inj (gen_run (fun i => some (g i)) n hn)
  obtain ⟨a, b⟩ := GA.Props.C08.generate_spec g n
  exact ⟨h2.trans (congrArg some a), h1 ▸ b⟩

/-- **C04: a generator that panics at any index loses nothing**: the values produced before are
    dropped exactly once, no never-written slot is touched -/
theorem C04_body_generate (f : Nat → Option Id) (n : Nat) (hn : n < word) :
    let r := runFn (genCtx n f) Gen.Body.intrusiveDrop.body Gen.Body.generate [] gst0
    ∃ res, resOf r.2.1 = some res ∧ (gives r.1 ++ drops r.1 ++ res.ids).Perm (takes r.1) ∧ uninitDrops r.1 = 0 := by
  simpa using ledger_of_run (gen_run f n hn) (GA.Props.C04.generate_ledger f n)

def foldCtx (n : Nat) (f : Nat → Bool) : Ctx :=
  { n := n, bad := none, fpan := fun k => !f k, cl := fun _ => none }

def fst0 (xs : List Id) : St := ⟨⟨xs, 0, 0, 0, []⟩, ⟨[], 0, 0, 0, []⟩, false, 0, false, 0, false, {}⟩

theorem ga_fold_run (f : Nat → Bool) (xs : List Id) (hw : xs.length < word) :
    let r := runFn (foldCtx xs.length f) Gen.Body.consumerDrop.body Gen.Body.gaFold [] (fst0 xs)
    (r.1, r.2.1) = ((GA.Ops.foldOp .owned f xs).1, if (GA.Ops.foldOp .owned f xs).2 then R.ret .unit else R.panicked) := by
  rw [foldOp_owned_eq]
  exact gaFold_body xs hw (foldCtx xs.length f) rfl 0

/-- **C04**: whichever call of the closure panics, every element is handed to the closure or
    dropped exactly once; **C08**: without panics the closure sees `(0, x₀), (1, x₁), …` in order -/
theorem C04_C08_body_ga_fold (f : Nat → Bool) (xs : List Id) (hw : xs.length < word) :
    let r := runFn (foldCtx xs.length f) Gen.Body.consumerDrop.body Gen.Body.gaFold [] (fst0 xs)
    (gives r.1 ++ drops r.1).Perm (xs ++ takes r.1) ∧ uninitDrops r.1 = 0 ∧
    ((∀ k, f k = true) → GA.Func.args r.1 = (List.range xs.length).zip xs) := by
  intro r
  rw [show r.1 = _ from (Prod.mk.inj (ga_fold_run f xs hw)).1]
  obtain ⟨hp, hu⟩ := GA.Props.C04.fold_ledger .owned f xs
  refine ⟨by simpa [GA.Props.C04.ownedInputs] using hp, hu, fun hall => ?_⟩
  rw [funext hall]
  exact (GA.Props.C08.fold_spec .owned xs).2

def mapCtx (n : Nat) (f : Nat → Option Id) : Ctx :=
  { n := n, bad := none, fpan := fun _ => false, cl := f }

theorem ga_map_run (f : Nat → Option Id) (xs : List Id) (hw : xs.length < word) :
    let r := runFn2 (mapCtx xs.length f) Gen.Body.consumerDrop.body Gen.Body.intrusiveDrop.body Gen.Body.gaMap [] (fst0 xs)
    (r.1, resOf r.2.1) = ((GA.Ops.mapOp .owned f xs).1, some (GA.Ops.mapOp .owned f xs).2) :=
  gaMap_body xs hw (mapCtx xs.length f) rfl rfl 0

/-- **C08: `map` applies the function to `a[0], a[1], …` once each, in order, and stores result `i`
    at position `i`** — on the interpretation of the whole call chain `map → from_iter →
    try_from_iter → extend` with the `Map` adaptor's closure, regenerated from the current source -/
theorem C08_body_map (g : Nat → Id) (xs : List Id) (hw : xs.length < word) :
    let r := runFn2 (mapCtx xs.length fun i => some (g i)) Gen.Body.consumerDrop.body Gen.Body.intrusiveDrop.body
      Gen.Body.gaMap [] (fst0 xs)
    resOf r.2.1 = some (.ok ((List.range xs.length).map g)) ∧
    GA.Func.args r.1 = (List.range xs.length).zip xs ∧
    GA.Func.rets r.1 = (List.range xs.length).map (fun i => (i, g i)) := by
  obtain ⟨h1, h2⟩ := Prod.mk.inj (ga_map_run (fun i => some (g i)) xs hw)
  obtain ⟨a, b, c⟩ := GA.Props.C08.map_spec .owned g xs
  exact ⟨h2.trans (congrArg some a), h1 ▸ b, h1 ▸ c⟩

/-- **C04: whichever call of the mapping function panics**, every input element is handed to it or
    dropped, every result is in the returned array or dropped — exactly once; no never-written slot
    is dropped or returned -/
theorem C04_body_map (f : Nat → Option Id) (xs : List Id) (hw : xs.length < word) :
    let r := runFn2 (mapCtx xs.length f) Gen.Body.consumerDrop.body Gen.Body.intrusiveDrop.body Gen.Body.gaMap [] (fst0 xs)
    ∃ res, resOf r.2.1 = some res ∧ (gives r.1 ++ drops r.1 ++ res.ids).Perm (xs ++ takes r.1) ∧ uninitDrops r.1 = 0 :=
  ledger_of_run (ga_map_run f xs hw) (GA.Props.C04.map_ledger .owned f xs)

example : resOf (runFn (scriptCtx 3 (0, none) ⟨[some 7, some 8, some 9, none], 0, none⟩) Gen.Body.intrusiveDrop.body
    Gen.Body.tryFromIter [] (st0 ⟨[some 7, some 8, some 9, none], 0, none⟩)).2.1 = some (.ok [7, 8, 9]) := by decide
example : (runFn (scriptCtx 3 (0, none) ⟨[some 7, some 8, some 9, some 1], 0, none⟩) Gen.Body.intrusiveDrop.body
    Gen.Body.tryFromIter [] (st0 ⟨[some 7, some 8, some 9, some 1], 0, none⟩)).2.1 = R.ret .err := by decide
/-- `map` with the function panicking on its third call: the two results are dropped by the builder,
    the unread input by the consumer, the element in flight was given to the closure -/
example :
    let r := runFn2 (mapCtx 4 fun i => if i = 2 then none else some (100 + i)) Gen.Body.consumerDrop.body
      Gen.Body.intrusiveDrop.body Gen.Body.gaMap [] (fst0 [1, 2, 3, 4])
    (gives r.1, drops r.1, r.2.1) = ([1, 2, 3], [100, 101, 4], R.panicked) := by decide
example : drops (runFn (scriptCtx 3 (0, none) ⟨[some 7, some 8, some 9, some 1], 0, none⟩) Gen.Body.intrusiveDrop.body
    Gen.Body.tryFromIter [] (st0 ⟨[some 7, some 8, some 9, some 1], 0, none⟩)).1 = [1, 7, 8, 9] := by decide

end GA.Props.BodyCollect

#print axioms GA.Props.BodyCollect.C07_body_ok_iff
#print axioms GA.Props.BodyCollect.C07_body_polls_le
#print axioms GA.Props.BodyCollect.C07_body_from_iter
#print axioms GA.Props.BodyCollect.C07_body_ledger
#print axioms GA.Bridge.BodyCollect.exec_failOnErr
#print axioms GA.Props.BodyCollect.C08_body_generate
#print axioms GA.Props.BodyCollect.C04_body_generate
#print axioms GA.Props.BodyCollect.C04_C08_body_ga_fold
#print axioms GA.Props.BodyCollect.C08_body_map
#print axioms GA.Props.BodyCollect.C04_body_map
