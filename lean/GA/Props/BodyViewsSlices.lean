import GA.Bridge.SliceBody
/-!
# C02 on the interpreted bodies of `as_slice` / `as_mut_slice` / `from_slice` / `try_from_slice` / `from_mut_slice` (src/lib.rs)
-/
namespace GA.Props.BodyViews
open GA.MemBody GA.Gen GA.Bridge.SeqBody

/-- **C02** `as_slice` / `as_mut_slice` — what every other borrowed view (`Deref`, `Borrow`, `AsRef`, `&`-iteration, indexing)
    delegates to — on the interpreted bodies: the view starts at the array's address, has exactly `N` elements, is made from
    the receiver reference itself and is writable only for `as_mut_slice` -/
theorem C02_body_as_slice (n k i : Nat) :
    runViews false SeqBody.asSlice ⟨n, k, i⟩ = .views [⟨0, n, false⟩] ∧
    runViews true SeqBody.asMutSlice ⟨n, k, i⟩ = .views [⟨0, n, true⟩] :=
  asSlice_body n k i

/-- **C02** the checked slice → array-reference conversions succeed iff `len = N` (panic / `LengthError` / failed
    assertion otherwise) and then alias the slice exactly: same address, `N` elements, writable only for the `&mut` form -/
theorem C02_body_reinterpret_exact (n len i : Nat) :
    (runViews false SeqBody.fromSlice ⟨n, len, i⟩ = if len ≠ n then .panic else .views [⟨0, n, false⟩]) ∧
    (runViews false SeqBody.tryFromSlice ⟨n, len, i⟩ = if len ≠ n then .err else .views [⟨0, n, false⟩]) ∧
    (runViews true SeqBody.fromMutSlice ⟨n, len, i⟩ = if len = n then .views [⟨0, n, true⟩] else .panic) :=
  ⟨fromSlice_body n len i, tryFromSlice_body n len i, fromMutSlice_body n len i⟩

example : runViews false SeqBody.fromSlice ⟨4, 5, 0⟩ = .panic := rfl
-- `try_from_slice` comparing byte sizes accepts any length for zero-sized elements: modelled as a guard that never fires
example : runViews false [.errIf (.ne (.mul .k (.lit 0)) (.mul .n (.lit 0))), .ptrArg 0 false .k, .viewAt 0 0 (.lit 0) .n false, .retViews [0]]
    ⟨3, 2, 0⟩ = .ub := rfl

-- `as_mut_slice` made from `self as *const Self` (a pointer that may not be written through)
example : runViews true [.ptrSelf 0 false, .viewAt 0 0 (.lit 0) .n true, .retViews [0]] ⟨4, 0, 0⟩ = .ub := rfl
-- a view one element longer than the array
example : runViews false [.ptrSelf 0 false, .viewAt 0 0 (.lit 0) (.add .n (.lit 1)) false, .retViews [0]] ⟨4, 0, 0⟩ = .ub := rfl

end GA.Props.BodyViews

#print axioms GA.Props.BodyViews.C02_body_as_slice
#print axioms GA.Props.BodyViews.C02_body_reinterpret_exact
