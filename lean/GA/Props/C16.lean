import GA.Model.Heap
import GA.Lemmas.Own
import GA.Bridge.Heap
import GA.Bridge.HeapGen
import GA.Bridge.Lib
/-!
# C16 — every heap block is requested validly, freed once with its layout, never leaked

`boxedGenerate esz ealign n f allocOk` is the whole life cycle of the only operation of the crate
that talks to the global allocator directly (boxed `generate`, also behind `default_boxed`):
request, fill loop with a generator that may panic at any call (`f i = none`), `Box::from_raw`, and
the eventual drop of the box.  All other alloc-feature operations go through `Vec`/`Box`, whose
allocation discipline is std's (validated by the recording allocator in the correspondence).
-/
namespace GA.Props.C16
open GA.Heap GA.Own GA.Ops GA.Gen GA.Bridge.Heap GA.Bridge.HeapGen

/-- the allocator's view of the whole life cycle: nothing for a zero-size array, a failed request
    and `handle_alloc_error`, or one request and one release of the same block, whether the
    generator panics or not; and the result in each case -/
theorem boxedGenerate_cases (esz ealign n : Nat) (f : Nat → Option Id) (allocOk : Bool) :
    let o := boxedGenerate esz ealign n f allocOk
    o.atrace = (if n * esz = 0 then [] else if allocOk then [.alloc 1 (n * esz) ealign, .dealloc 1 (n * esz) ealign]
      else [.allocFail (n * esz) ealign, .handleAllocError]) ∧
    (if n * esz ≠ 0 ∧ allocOk = false then o.res = .aborted
      else (∃ arr, o.res = .ok arr ∧ arr.length = n) ∨ o.res = .panicked) := by
  unfold boxedGenerate
  simp only [boxedNoAlloc_eq esz n (n * esz) rfl, boxedNullChecked_eq, boxedDeallocGuard_eq, boxedWriteBeforeCount_eq, boxedDanglingAligned_eq]
  by_cases hz : n * esz = 0
  · rcases fillLoop_gen_cases true f n 0 [] with ⟨tr, out, s, h, hl⟩ | ⟨tr, h⟩
    · simp [hz, h, hl]
    · simp [hz, h]
  · cases allocOk
    · simp [hz]
    · rcases fillLoop_gen_cases true f n 0 [] with ⟨tr, out, s, h, hl⟩ | ⟨tr, h⟩
      · simp [hz, h, hl]
      · simp [hz, h]

theorem atrace_cases {P : List AEv → Prop} (esz ealign n : Nat) (f : Nat → Option Id) (allocOk : Bool) (h0 : P [])
    (hok : ∀ s, 0 < s → P [.alloc 1 s ealign, .dealloc 1 s ealign])
    (hfail : ∀ s, 0 < s → P [.allocFail s ealign, .handleAllocError]) :
    P (boxedGenerate esz ealign n f allocOk).atrace := by
  rw [(boxedGenerate_cases esz ealign n f allocOk).1]
  split
  · exact h0
  · split
    · exact hok _ (Nat.pos_of_ne_zero ‹_›)
    · exact hfail _ (Nat.pos_of_ne_zero ‹_›)

/-- **only non-zero-size requests**, for every element size (zero included), every length (zero
    included), every generator and whether or not the allocator succeeds -/
theorem requests_nonzero (esz ealign n : Nat) (f : Nat → Option Id) (allocOk : Bool) :
    requestsNonzero (boxedGenerate esz ealign n f allocOk).atrace = true :=
  atrace_cases (P := fun t => requestsNonzero t = true) esz ealign n f allocOk rfl (fun s hs => by simp [requestsNonzero, hs])
    (fun s hs => by simp [requestsNonzero, hs])

/-- **every release matches** a live block with the size and alignment it was requested with -/
theorem release_matches (esz ealign n : Nat) (f : Nat → Option Id) (allocOk : Bool) :
    releasesMatch (boxedGenerate esz ealign n f allocOk).atrace = true :=
  atrace_cases (P := fun t => releasesMatch t = true) esz ealign n f allocOk rfl (fun s _ => by simp [releasesMatch])
    (fun _ _ => rfl)

/-- **no block stays allocated** once the box is gone — including when the generator panics at any
    call index (then the block is released while unwinding) -/
theorem no_leak (esz ealign n : Nat) (f : Nat → Option Id) (allocOk : Bool) :
    liveAfter (boxedGenerate esz ealign n f allocOk).atrace = [] :=
  atrace_cases (P := fun t => liveAfter t = []) esz ealign n f allocOk rfl (fun s _ => by simp [liveAfter]) (fun _ _ => rfl)

/-- **allocation failure** ends through `handle_alloc_error`; the null block is never touched -/
theorem alloc_failure_path (esz ealign n : Nat) (f : Nat → Option Id) (hz : n * esz ≠ 0) :
    (boxedGenerate esz ealign n f false).atrace = [.allocFail (n * esz) ealign, .handleAllocError] ∧
    (boxedGenerate esz ealign n f false).res = .aborted ∧
    AEv.nullDeref ∉ (boxedGenerate esz ealign n f false).atrace := by
  obtain ⟨h1, h2⟩ := boxedGenerate_cases esz ealign n f false
  simp only [hz, if_false, Bool.false_eq_true, ne_eq, not_false_eq_true, and_self, if_true] at h1 h2
  rw [h1]
  exact ⟨rfl, h2, by simp⟩

/-- **no undefined behaviour on any path**: the null block is never used, the fill loop never leaves
    a hole, and the pointer standing in for a zero-size block is aligned for the array (so the
    `&mut` formed on it and the returned `Box` are valid for every alignment — C01's `N = 0` and
    zero-sized-element cases on the heap) -/
theorem boxed_no_ub (esz ealign n : Nat) (f : Nat → Option Id) (allocOk : Bool) :
    (boxedGenerate esz ealign n f allocOk).res ≠ .ub := by
  have h := (boxedGenerate_cases esz ealign n f allocOk).2
  split at h
  · rw [h]; simp
  · rcases h with ⟨arr, h, _⟩ | h <;> rw [h] <;> simp

/-- the elements themselves obey the C04 ledger (same fill loop) and a returned box is complete -/
theorem boxed_complete (esz ealign n : Nat) (f : Nat → Option Id) (arr : List Id)
    (h : (boxedGenerate esz ealign n f true).res = .ok arr) : arr.length = n := by
  have h' := (boxedGenerate_cases esz ealign n f true).2
  simp only [Bool.true_eq_false, and_false, if_false] at h'
  rcases h' with ⟨arr', h1, h2⟩ | h1 <;> rw [h1] at h
  · cases h; exact h2
  · cases h

/-! The statement distinguishes: the allocator traces of two of the defects found in /repo and repaired there
    (DESIGN.md §6 F3, F4; KNOWN_FINDINGS.txt) fail the trace predicates. -/
-- F3: the allocator was avoided only for zero-sized `T`: `N = 0` with `u32` issued a zero-size request
example : requestsNonzero [AEv.alloc 1 (0 * 4) 4] = false := by decide
-- F4: no guard: a panicking generator left the block allocated
example : liveAfter [AEv.alloc 1 32 4] ≠ [] := by decide
example : (boxedGenerate 4 4 3 (fun i => some (100 + i)) true).atrace = [.alloc 1 12 4, .dealloc 1 12 4] := by rfl
example : (boxedGenerate 0 1 5 (fun i => some i) true).atrace = [] := by rfl

end GA.Props.C16

#print axioms GA.Props.C16.requests_nonzero
#print axioms GA.Props.C16.release_matches
#print axioms GA.Props.C16.no_leak
#print axioms GA.Props.C16.alloc_failure_path
#print axioms GA.Props.C16.boxed_no_ub
#print axioms GA.Props.C16.boxed_complete
