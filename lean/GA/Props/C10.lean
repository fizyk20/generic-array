import GA.Model.Mem
import GA.Bridge.Mem
/-!
# C10 — chunk regrouping partitions a slice exactly, without copying

Views are `(element offset, count)` relative to the source slice.  A chunk slice of `c` arrays of
`N` elements starting at offset `o` covers elements `[o, o + c*N)`.
-/
namespace GA.Props.C10
open GA.Mem GA.Gen

/-- `chunks_from_slice` for `N > 0`, computed: no guard of the extracted arithmetic fails -/
theorem chunksFromSlice_pos (len n : Nat) (hn : 0 < n) :
    chunksFromSlice len n = .ok ⟨0, len / n⟩ ⟨len / n * n, len % n⟩ := by
  simp only [chunksFromSlice, ga_bridge, Nat.ne_of_gt hn, hn, decide_false, decide_true, Bool.false_eq_true, if_false,
    Bool.not_true, ← Nat.mod_eq_sub_div_mul]

theorem sliceFromChunks_eq (k n : Nat) : sliceFromChunks k n = ⟨0, k * n⟩ ∧ sliceFromChunksMut k n = ⟨0, k * n⟩ := by
  simp only [sliceFromChunks, sliceFromChunksMut, ga_bridge, and_self]

/-- **`chunks_from_slice`, `N > 0`**: `⌊L/N⌋` chunks starting at the source's own address, then a
    remainder of `L mod N` elements starting right after them and ending exactly at the end of the
    source — same memory, same order, no overlap, nothing beyond the end. -/
theorem chunks_partition (len n : Nat) (hn : 0 < n) :
    ∃ c r, chunksFromSlice len n = .ok c r ∧
      c.off = 0 ∧ c.len = len / n ∧ r.len = len % n ∧
      r.off = c.off + c.len * n ∧
      r.off + r.len = len ∧
      c.len * n + r.len = len :=
  ⟨_, _, chunksFromSlice_pos len n hn, rfl, rfl, rfl, (Nat.zero_add _).symm, Nat.div_add_mod' len n, Nat.div_add_mod' len n⟩

theorem chunks_mut_same (len n : Nat) : chunksFromSliceMut len n = chunksFromSlice len n := by
  simp only [chunksFromSliceMut, chunksFromSlice, ga_bridge]

/-- **`N = 0`**: an empty slice gives two empty results, a non-empty one panics — never a division by zero -/
theorem chunks_n_zero (len : Nat) :
    chunksFromSlice len 0 = (if len = 0 then .empties else .panic) := by
  unfold chunksFromSlice
  simp only [ga_bridge, decide_true, if_true]
  by_cases h : len = 0 <;> simp [h]

/-- **`slice_from_chunks` is the inverse**: flattening the chunk slice gives back exactly the
    elements the chunks cover (`k*N` elements from the same address) -/
theorem flat_inverse (len n : Nat) (hn : 0 < n) :
    ∃ c r, chunksFromSlice len n = .ok c r ∧ sliceFromChunks c.len n = ⟨c.off, c.len * n⟩ ∧
      sliceFromChunksMut c.len n = sliceFromChunks c.len n :=
  ⟨_, _, chunksFromSlice_pos len n hn, (sliceFromChunks_eq _ n).1, (sliceFromChunks_eq _ n).2.trans (sliceFromChunks_eq _ n).1.symm⟩

/-- and chunking a flat view of `k` arrays gives the `k` arrays back, with no remainder -/
theorem chunks_of_flat (k n : Nat) (hn : 0 < n) :
    chunksFromSlice (sliceFromChunks k n).len n = .ok ⟨0, k⟩ ⟨k * n, 0⟩ := by
  rw [(sliceFromChunks_eq k n).1, chunksFromSlice_pos _ n hn, Nat.mul_div_cancel _ hn, Nat.mul_mod_left]

/-- `from_chunks` / `into_chunks` and their `_mut` forms keep address and count (reference transmute
    between `[[T; N]]` and `[GenericArray<T, N>]`, whose elements have identical layout by C01),
    and are only typed for `U = N` -/
theorem reinterpret_same (k : Nat) :
    reinterpretChunks Mem.fromChunksIsTransmute Mem.fromChunksLenTied k = some ⟨0, k⟩ ∧
    reinterpretChunks Mem.fromChunksMutIsTransmute Mem.fromChunksMutLenTied k = some ⟨0, k⟩ ∧
    reinterpretChunks Mem.intoChunksIsTransmute Mem.intoChunksLenTied k = some ⟨0, k⟩ ∧
    reinterpretChunks Mem.intoChunksMutIsTransmute Mem.intoChunksMutLenTied k = some ⟨0, k⟩ := by
  simp [reinterpretChunks, ga_bridge]

/-- no overflow in `slice.len() * N` for elements of non-zero size: `k` arrays of `N` elements of
    `s ≥ 1` bytes fit in an object (`≤ isize::MAX` bytes), so `k * N ≤ isize::MAX` -/
theorem flat_len_no_overflow (k n s : Nat) (hs : 0 < s) (hobj : k * (n * s) ≤ 2 ^ 63 - 1) : k * n ≤ 2 ^ 63 - 1 :=
  Nat.le_trans (Nat.mul_le_mul_left _ (Nat.le_mul_of_pos_right _ hs)) hobj

example : chunksFromSlice 7 3 = .ok ⟨0, 2⟩ ⟨6, 1⟩ := rfl
example : chunksFromSlice 0 5 = .ok ⟨0, 0⟩ ⟨0, 0⟩ := rfl
example : chunksFromSlice 3 0 = .panic := rfl

end GA.Props.C10

#print axioms GA.Props.C10.chunks_partition
#print axioms GA.Props.C10.chunks_mut_same
#print axioms GA.Props.C10.chunks_n_zero
#print axioms GA.Props.C10.flat_inverse
#print axioms GA.Props.C10.chunks_of_flat
#print axioms GA.Props.C10.reinterpret_same
#print axioms GA.Props.C10.flat_len_no_overflow
