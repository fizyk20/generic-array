import GA.Bridge.RegroupBody
/-!
# C11 on the interpreted bodies of the by-reference `flatten` / `unflatten` impls (src/sequence.rs)
-/
namespace GA.Props.BodyViews
open GA.MemBody GA.Gen GA.Bridge.SeqBody

/-- **C11** by-reference `flatten` / `unflatten` on the interpreted bodies: the regrouped reference is the receiver reference
    retyped — same address, the same `N·M` (resp. `NM`) elements, shared for `&`, writable for `&mut` — so reads and writes
    through it are reads and writes of the original storage -/
theorem C11_body_regroup_views (n m nm i : Nat) :
    runViews false SeqBody.flattenRef ⟨n, m, i⟩ = .views [⟨0, n * m, false⟩] ∧
    runViews true SeqBody.flattenMut ⟨n, m, i⟩ = .views [⟨0, n * m, true⟩] ∧
    runViews false SeqBody.unflattenRef ⟨n, nm, i⟩ = .views [⟨0, nm, false⟩] ∧
    runViews true SeqBody.unflattenMut ⟨n, nm, i⟩ = .views [⟨0, nm, true⟩] :=
  ⟨(regroupRef_body n m i).1, (regroupRef_body n m i).2.1, (regroupRef_body n nm i).2.2.1, (regroupRef_body n nm i).2.2.2⟩

-- a `&mut` regrouped view made from `self.as_ptr()` (seed C11-11): not writable
example : runViews true [.ptrArg 0 false .k, .viewAt 0 0 (.lit 0) .k true, .retViews [0]] ⟨3, 12, 0⟩ = .ub := rfl

end GA.Props.BodyViews

#print axioms GA.Props.BodyViews.C11_body_regroup_views
