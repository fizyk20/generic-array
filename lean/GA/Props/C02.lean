import GA.Model.Mem
import GA.Bridge.Mem
import GA.Bridge.Layout
import GA.Props.C01
/-!
# C02 — borrowed views alias the array's storage; reinterpretation needs exact length
-/
namespace GA.Props.C02
open GA.Mem GA.Gen

/-- **every borrowed view** — `as_slice`/`as_mut_slice`, `Deref(Mut)`, `Borrow(Mut)`, `AsRef`/`AsMut` to
    `[T]` and to `[T; N]`, by-reference iteration — starts at the array's own address and has exactly
    `N` elements -/
theorem view_same (k : ViewKind) (n : Nat) : view k n = some ⟨0, n⟩ := by
  cases k <;> simp [view, asSlice, asMutSlice, ga_bridge]

/-- a write through any mutable view is seen through every other view: they all denote the same `N`
    cells (cell `i` of view `a` is cell `i` of view `b`) -/
theorem write_through (a b : ViewKind) (n i : Nat) (cells : List Nat) (x : Nat) (hn : cells.length = n) (hi : i < n) :
    ∃ va vb, view a n = some va ∧ view b n = some vb ∧
      ((cells.set (va.off + i) x).drop vb.off)[i]? = some x := by
  refine ⟨⟨0, n⟩, ⟨0, n⟩, view_same a n, view_same b n, ?_⟩
  simp [hn, hi]

/-- **reinterpreting a slice needs exactly `N` elements** — all six checked forms: the panicking
    ones panic otherwise, the fallible ones return `LengthError`, and success aliases the source
    (offset 0, `N` elements: neither out of bounds nor truncated) -/
theorem reinterpret_exact (len n : Nat) :
    (fromSlice len n = (if len = n then .ok ⟨0, n⟩ else .panic)) ∧
    (tryFromSlice len n = (if len = n then .ok ⟨0, n⟩ else .err)) ∧
    (fromMutSlice len n = (if len = n then .ok ⟨0, n⟩ else .panic)) ∧
    (tryFromMutSlice len n = (if len = n then .ok ⟨0, n⟩ else .err)) ∧
    (tryFrom len n = (if len = n then .ok ⟨0, n⟩ else .err)) ∧
    (tryFromMut len n = (if len = n then .ok ⟨0, n⟩ else .err)) := by
  unfold fromSlice tryFromSlice tryFromMutSlice fromMutSlice tryFrom tryFromMut tryFromSlice tryFromMutSlice fromMutSlice
  by_cases h : len = n <;> simp [ga_bridge, h]

theorem reinterpret_within (len n : Nat) (v : View)
    (h : fromSlice len n = .ok v ∨ tryFromSlice len n = .ok v ∨ fromMutSlice len n = .ok v ∨ tryFromMutSlice len n = .ok v) :
    v.off = 0 ∧ v.off + v.len = len := by
  obtain ⟨h1, h2, h3, h4, _, _⟩ := reinterpret_exact len n
  rw [h1, h2, h3, h4] at h
  by_cases hl : len = n
  · simp only [hl, if_true, Res.ok.injEq, or_self] at h
    subst h hl
    exact ⟨rfl, Nat.zero_add _⟩
  · simp [hl] at h

/-- references to native arrays convert at the same address (`From<&[T; N]>`, `From<&mut [T; N]>`) -/
theorem array_ref_same : Mem.fromArrayRefOff = 0 ∧ Mem.fromArrayMutOff = 0 := by
  simp [ga_bridge]

/-- the size check of `const_transmute` is exact -/
theorem transmute_checked (a b : Nat) : constTransmute a b = (if a = b then .ok () else .panic) := by
  unfold constTransmute
  by_cases h : a = b <;> simp [ga_bridge, h]

/-- by-value conversion to/from `[T; N]` is a size-checked bit copy: the size check never fires
    because the layouts agree (C01), and a bit copy keeps every element at its position -/
theorem array_roundtrip (t : Layout.Lay) (ha : 0 < t.align) (hs : t.align ∣ t.size) (n : Nat) :
    Mem.fromArrayIsTransmute = true ∧ Mem.intoArrayIsTransmute = true ∧
    (∀ l, Layout.wrapper t (Layout.Digits.ofNat n) = some l → constTransmute (n * t.size) l.size = .ok ()) := by
  refine ⟨by simp [ga_bridge], by simp [ga_bridge], ?_⟩
  intro l hl
  rw [C01.layout_all_lengths t ha hs n] at hl
  cases hl
  simp [transmute_checked]

example : fromSlice 4 3 = .panic ∧ tryFromSlice 2 3 = .err ∧ tryFromMutSlice 3 3 = .ok ⟨0, 3⟩ := by decide

end GA.Props.C02

#print axioms GA.Props.C02.view_same
#print axioms GA.Props.C02.write_through
#print axioms GA.Props.C02.reinterpret_exact
#print axioms GA.Props.C02.reinterpret_within
#print axioms GA.Props.C02.array_ref_same
#print axioms GA.Props.C02.array_roundtrip
#print axioms GA.Props.C02.transmute_checked
