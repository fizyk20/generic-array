import GA.Lemmas.Layout
/-!
# C01 — memory layout identical to `[T; N]` for every element layout and every length

`storage`/`wrapper` interpret the struct descriptors regenerated from src/lib.rs
(`GA.Gen.Layout`) with the Rust Reference's `repr(C)` / `repr(transparent)` rules.
-/
namespace GA.Props.C01
open GA.Layout GA.Gen GA.Bridge.Layout

/-- a node of two children of `k` elements each and `e` elements of its own, whatever the field order -/
theorem node_layout (t : Lay) (ha : 0 < t.align) (hs : t.align ∣ t.size) (k e : Nat) (fs : List FieldKind)
    (hc : fs.count .child = 2) (he : fs.count .elem = e) :
    reprC (fs.map (fieldLay t ⟨k * t.size, t.align⟩)) = ⟨(2 * k + e) * t.size, t.align⟩ := by
  rw [reprC_nopad t ⟨k * t.size, t.align⟩ ha hs rfl (Nat.dvd_mul_left_of_dvd hs _) _ (by omega), hc, he, Nat.add_mul,
    Nat.mul_assoc]

/-- **Layout of the recursive storage**, by induction on the type-level binary digits: for every
    element layout (`0 < align`, `align ∣ size` — true of every Rust type, including ZSTs and
    over-aligned types) and every length, the storage has size `N * size_of::<T>()` and `T`'s
    alignment.  Includes `N = 0` (the `[T; 0]` base case keeps `T`'s alignment). -/
theorem storage_layout (t : Lay) (ha : 0 < t.align) (hs : t.align ∣ t.size) (d : Digits) :
    storage t d = some ⟨d.val * t.size, t.align⟩ := by
  induction d with
  | term => simp [storage, termLay, termStorage_eq, Digits.val]
  | b0 d ih =>
    simp only [storage, ih, Option.bind_some, nodeLay, b0Node_eq, evenRepr_eq, if_true,
      node_layout t ha hs _ _ _ even_children even_elems]
    rfl
  | b1 d ih =>
    simp only [storage, ih, Option.bind_some, nodeLay, b1Node_eq, oddRepr_eq, if_true,
      node_layout t ha hs _ _ _ odd_children odd_elems]
    rfl

/-- `GenericArray<T, N>` is a transparent wrapper: exactly the size and alignment of `[T; N]`. -/
theorem wrapper_layout (t : Lay) (ha : 0 < t.align) (hs : t.align ∣ t.size) (d : Digits) :
    wrapper t d = some ⟨d.val * t.size, t.align⟩ := by
  simp only [wrapper, wrapperRepr_eq, wrapperSingle_eq, Bool.and_self, decide_true, if_true]
  exact storage_layout t ha hs d

/-- every natural number is a length (`Digits.ofNat` is typenum's normal form) -/
theorem ofNat_val (n : Nat) : (Digits.ofNat n).val = n := by
  induction n using Digits.ofNat.induct with
  | case1 => rw [Digits.ofNat, Digits.val]
  | case2 n h ih => rw [Digits.ofNat, if_pos h, Digits.val, ih]; omega
  | case3 n h ih => rw [Digits.ofNat, if_neg h, Digits.val, ih]; omega

theorem layout_all_lengths (t : Lay) (ha : 0 < t.align) (hs : t.align ∣ t.size) (n : Nat) :
    wrapper t (Digits.ofNat n) = some ⟨n * t.size, t.align⟩ := by
  rw [wrapper_layout t ha hs, ofNat_val]

/-- distinct elements occupy disjoint byte ranges -/
theorem elems_disjoint (t : Lay) (i j : Nat) (h : i < j) :
    elemOffset t i + t.size ≤ elemOffset t j := by
  rw [elemOffset, elemOffset, ← Nat.succ_mul]
  exact Nat.mul_le_mul_right _ h

/-- Element `i` through the slice view lies wholly inside the object: the slice view
    (`base = self`, length `N`, stride `size_of::<T>()`) covers exactly the object's `N * size`
    bytes, so it touches no padding and nothing outside. -/
theorem elem_within (t : Lay) (n i : Nat) (hi : i < Layout.asSliceLen n) :
    elemOffset t i + t.size ≤ n * t.size ∧ Layout.asSliceLen n * t.size = n * t.size ∧
    Layout.asSliceBaseIsSelf = true ∧ Layout.asMutSliceLen n = n ∧ Layout.asMutSliceBaseIsSelf = true := by
  simp only [ga_bridge] at *
  exact ⟨elems_disjoint t i n hi, trivial, trivial, trivial, trivial⟩

/-! The statement distinguishes: the historical bug shape (a base case with alignment 1 instead
    of `[T; 0]`) violates it at `T = u32`, `N = 0`; and a node with an extra 1-byte field is padded. -/
example : termLay ⟨4, 4⟩ .unit ≠ ⟨0 * 4, 4⟩ := by decide
example : reprC ([.child, .child, .elem, .elem].map (fieldLay ⟨4, 4⟩ ⟨4, 4⟩)) ≠ ⟨3 * 4, 4⟩ := by decide
-- a padded tuple `(u8, u16)` (size 4, align 2) at N = 5 = 0b101
example : wrapper ⟨4, 2⟩ (.b1 (.b0 (.b1 .term))) = some ⟨20, 2⟩ := by decide
example : wrapper ⟨0, 64⟩ (Digits.ofNat 1000) = some ⟨0, 64⟩ :=
  layout_all_lengths ⟨0, 64⟩ (by decide) (by decide) 1000

end GA.Props.C01

#print axioms GA.Props.C01.storage_layout
#print axioms GA.Props.C01.wrapper_layout
#print axioms GA.Props.C01.layout_all_lengths
#print axioms GA.Props.C01.elem_within
#print axioms GA.Props.C01.elems_disjoint
