import GA.Model.Types
import GA.Bridge.Types
/-!
# C12 — length, thread-safety and lifetime errors are rejected at compile time
-/
namespace GA.Props.C12
open GA.Types GA.Gen GA.Bridge.Types

/-- **lengths**: for every public operation that relates two lengths and for all lengths, the
    regenerated where-clauses and associated types accept a program exactly when the lengths agree,
    and then infer exactly the result lengths of the specification -/
theorem check_eq_spec (op : Op) : check op = spec op := by
  cases op with
  | tuple k n => simp only [check, spec, tupleTable_spec]
  | _ => simp [check, spec, needEq, ga_bridge]

/-- rejected means rejected: splitting past the end, popping or removing from an empty array,
    zipping or comparing different lengths, wrong native/tuple lengths are type errors -/
theorem rejects (n k : Nat) :
    (n < k → check (.split n k) = none) ∧ check (.pop 0) = none ∧ check (.remove 0) = none ∧
    (n ≠ k → check (.zip n k) = none ∧ check (.cmp n k) = none ∧ check (.fromArray k n) = none ∧
      check (.intoArray n k) = none ∧ check (.native k n) = none ∧ check (.intoChunks k n) = none ∧ check (.tuple k n) = none) := by
  simp only [check_eq_spec, spec]
  refine ⟨fun h => by simp; omega, by simp, by simp, fun h => ?_⟩
  have h' : ¬ k = n := fun e => h e.symm
  simp [h, h']

/-- **auto traits**: the array, a reference to it and its by-value iterator are Send / Sync /
    Clone / Copy exactly when the element type is; the iterator is never `Copy` -/
theorem auto_traits (e : Caps) :
    arraySend e = some e.send ∧ arraySync e = some e.sync ∧ refSend e = some e.sync ∧
    iterSend e = some e.send ∧ iterSync e = some e.sync ∧
    arrayClone e = e.clone ∧ arrayCopy e = e.copy ∧ iterClone e = e.clone ∧ iterCopy = false := by
  simp [arraySend, arraySync, refSend, iterSend, iterSync, autoFor, autoImpls_eq, arrayClone, arrayCopy, iterClone, iterCopy,
    arrayCloneBounds_eq, arrayCopyBounds_eq, iterCloneBounds_eq, holds, ga_bridge]

/-- **lifetimes**: every API that returns a reference built from a raw pointer or a transmute
    ties the result's lifetime to the borrow of its source -/
theorem lifetimes_tied (api : String) (h : api ∈ apis) : tied api = some true := by
  unfold tied
  rw [lifetimes_all api h]; rfl

example : check (.split 5 2) = some [2, 3] := by rw [check_eq_spec]; rfl
example : check (.split 2 5) = none := by rw [check_eq_spec]; rfl
example : arraySync ⟨true, false, false, true⟩ = some false := (auto_traits _).2.1
example : tied "from_array_mut" = some true := lifetimes_tied _ (by simp [apis])

end GA.Props.C12

#print axioms GA.Props.C12.check_eq_spec
#print axioms GA.Props.C12.rejects
#print axioms GA.Props.C12.auto_traits
#print axioms GA.Props.C12.lifetimes_tied
