import GA.Model.Pool
import GA.Lemmas.IterOwn
import GA.Lemmas.Func
import GA.Lemmas.Attr
import GA.Props.C04
import GA.Props.C08
import GA.Props.C09
/-! Per-operation ownership lemmas for the pool machine (C03). -/
namespace GA.Pool
open GA.Own GA.Iter GA.IterOwn GA.Ops GA.Func GA.Props

def ItersInv (p : Pool) : Prop := ∀ it ∈ p.iters, Inv it

def Ledger (p : Pool) : Prop := p.owned.Perm (List.range p.next) ∧ ItersInv p

attribute [ga_count] List.count_append List.count_cons List.count_nil List.flatten_cons List.flatten_nil
  List.flatten_append List.map_cons List.map_nil List.map_append List.range_zero beq_self_eq_true if_true

@[ga_count] theorem owned_count (p : Pool) (a : Id) :
    p.owned.count a = p.arrays.flatten.count a + (p.iters.map abs).flatten.count a + p.held.count a + p.dropped.count a := by
  simp only [Pool.owned, List.count_append]

attribute [ga_count] absorb

/-- the shape every operation has: `k` fresh ids appear, every id keeps its multiplicity -/
theorem Ledger.step {p q : Pool} (h : Ledger p) (k : Nat) (hn : q.next = p.next + k) (hi : ItersInv q)
    (hc : ∀ x, q.owned.count x = p.owned.count x + ((List.range k).map (p.next + ·)).count x) : Ledger q := by
  refine ⟨?_, hi⟩
  rw [hn, List.range_add]
  exact List.perm_iff_count.mpr fun x => by rw [hc, List.count_append, List.perm_iff_count.mp h.1 x]

theorem Ledger.same {p q : Pool} (h : Ledger p) (hi : ItersInv q) (hc : ∀ x, q.owned.count x = p.owned.count x)
    (hn : q.next = p.next := by rfl) : Ledger q :=
  h.step 0 hn hi fun x => by rw [hc]; rfl

theorem Ledger.perm {A A' : List (List Id)} {I I' : List Iter} {H H' D : List Id} {n : Nat} (h : Ledger ⟨A, I, H, D, n⟩)
    (hA : A'.flatten.Perm A.flatten) (hI : I'.Perm I) (hH : H'.Perm H) : Ledger ⟨A', I', H', D, n⟩ :=
  ⟨(((hA.append (hI.map abs).flatten).append hH).append_right D).trans h.1, fun it hit => h.2 it (hI.mem_iff.mp hit)⟩

theorem Ledger.hand {A : List (List Id)} {I : List Iter} {H D a r hs : List Id} {n : Nat} (h : Ledger ⟨a :: A, I, H, D, n⟩)
    (hp : (hs ++ r).Perm a) : Ledger ⟨r :: A, I, H ++ hs, D, n⟩ :=
  h.same h.2 fun x => by
    have := hp.count_eq x
    simp only [ga_count] at this ⊢; omega

theorem Ledger.dropFront {A : List (List Id)} {I : List Iter} {H D a : List Id} {n : Nat} (h : Ledger ⟨a :: A, I, H, D, n⟩) :
    Ledger ⟨A, I, H, D ++ a, n⟩ :=
  h.same h.2 fun x => by simp only [ga_count]; omega

theorem Ledger.fresh {A : List (List Id)} {I : List Iter} {H D : List Id} {n : Nat} (h : Ledger ⟨A, I, H, D, n⟩) (k : Nat) :
    Ledger ⟨((List.range k).map (n + ·) : List Nat) :: A, I, H, D, n + k⟩ :=
  h.step k rfl h.2 fun x => by simp only [ga_count]; omega

theorem rot_perm {α : Type} (l : List α) : (rot l).Perm l := by
  cases l with
  | nil => exact List.Perm.refl _
  | cons x t => exact List.perm_append_comm

theorem take_drop_flatten (k : Nat) (a : List Id) (A : List (List Id)) :
    (a.take k :: a.drop k :: A).flatten.Perm (a :: A).flatten :=
  .of_eq ((List.append_assoc ..).symm.trans (congrArg (· ++ _) (List.take_append_drop k a)))

theorem takes_eq_rets (evs : List Ev) : takes evs = (rets evs).map Prod.snd := by
  induction evs with
  | nil => rfl
  | cons e t ih =>
    cases e with
    | take i y => exact congrArg (y :: ·) ih
    | _ => exact ih

/-- a closure-driven constructor consumed `inp` off the arrays and made `arr` from `k` fresh results -/
theorem Ledger.collected {A A' : List (List Id)} {I : List Iter} {H D inp arr : List Id} {n k : Nat} {evs : List Ev}
    (h : Ledger ⟨A, I, H, D, n⟩) (hA : A.flatten.Perm (inp ++ A'.flatten))
    (hl : (gives evs ++ drops evs ++ arr).Perm (inp ++ takes evs))
    (hr : rets evs = (List.range k).map fun i => (i, n + i)) : Ledger (absorb ⟨arr :: A', I, H, D, n + k⟩ evs) :=
  h.step k rfl h.2 fun x => by
    have h1 := hl.count_eq x
    have h2 := hA.count_eq x
    simp only [ga_count, takes_eq_rets, hr, List.map_map, Function.comp_def] at h1 h2 ⊢
    omega

theorem dropIter_perm (it : Iter) : (drops (dropIter it) ++ gives (dropIter it)).Perm (abs it) := by
  rw [dropIter_eq, dropIter, gives_map_drop, List.append_nil]

theorem cloneLoop_total (g : Nat → Id) (live : List Id) (k : Nat) (made : List Id) :
    (cloneLoop true (fun i => some (g i)) live k made).2 = .ok (made ++ (List.range' k live.length).map g) := by
  induction live generalizing k made with
  | nil => exact congrArg Res.ok (List.append_nil made).symm
  | cons x t ih =>
    simp only [cloneLoop, ih, List.length_cons, List.range'_succ, List.map_cons, List.append_assoc, List.singleton_append]

theorem iterSrc_quiet (n : Nat) (hint : Nat × Option Nat) (c : Consumer) :
    gives (tryFromIter canonFrags iterSrc n hint c).1 = [] ∧ takes (tryFromIter canonFrags iterSrc n hint c).1 = [] :=
  tryFromIter_trace (P := fun _ t => gives t = [] ∧ takes t = []) ⟨rfl, rfl⟩
    (fun _ _ a b ha hb => by rw [gives_append, takes_append, ha.1, ha.2, hb.1, hb.2]; exact ⟨rfl, rfl⟩)
    (fun _ _ _ _ h => h) (fun c => by simp only [iterSrc]; split <;> exact ⟨rfl, rfl⟩)
    (fun c => ⟨gives_map_drop _, takes_map_drop _⟩) (fun l => ⟨gives_map_drop l, takes_map_drop l⟩) n hint c

theorem iter_step_ledger {A : List (List Id)} {it it' : Iter} {I : List Iter} {H D : List Id} {n : Nat} {evs : List Ev}
    (h : Ledger ⟨A, it :: I, H, D, n⟩) (hperm : (drops evs ++ gives evs ++ abs it').Perm (abs it)) (hinv : Inv it') :
    Ledger (absorb ⟨A, it' :: I, H, D, n⟩ evs) :=
  h.same (List.forall_mem_cons.mpr ⟨hinv, (List.forall_mem_cons.mp h.2).2⟩) fun x => by
    have := hperm.count_eq x
    simp only [ga_count] at this ⊢; omega

theorem iter_consume_ledger {A : List (List Id)} {it : Iter} {I : List Iter} {H D : List Id} {n : Nat} {evs : List Ev}
    (h : Ledger ⟨A, it :: I, H, D, n⟩) (hperm : (drops evs ++ gives evs).Perm (abs it)) :
    Ledger (absorb ⟨A, I, H, D, n⟩ evs) :=
  h.same (List.forall_mem_cons.mp h.2).2 fun x => by
    have := hperm.count_eq x
    simp only [ga_count] at this ⊢; omega

/-- **one step of any operation keeps the ledger**: every element created so far is in exactly one
    place — a live array, the live range of an iterator, the caller's hands, or the drop log -/
theorem step_ledger (p : Pool) (h : Ledger p) (op : Op) : Ledger (step p op) := by
  obtain ⟨A, I, H, D, n⟩ := p
  -- in every branch where the operation does not apply the pool is unchanged: `exact h`
  cases op <;> dsimp only [step]
  case gen k =>
    have hs := (C08.generate_spec (fun i => n + i) k).1
    split
    · rename_i heq; rw [heq] at hs; cases hs
      exact h.fresh k
    · exact h
  case rotA => exact h.perm (rot_perm A).flatten (.refl _) (.refl _)
  case rotI => exact h.perm (.refl _) (rot_perm I) (.refl _)
  case rotH => exact h.perm (.refl _) (.refl _) (rot_perm H)
  case intoIter =>
    split
    · rename_i a A
      obtain ⟨hi, habs⟩ := ofList_inv a
      exact h.same (List.forall_mem_cons.mpr ⟨hi, h.2⟩) fun x => by simp only [ga_count, habs]; omega
    · exact h
  case next =>
    split
    · rename_i it I
      obtain ⟨a, b, c⟩ := next_refines it (h.2 it List.mem_cons_self)
      obtain ⟨e1, e2, -, e4⟩ := afterNext_item [] _ _ a
      refine iter_step_ledger h ?_ (e4 ▸ c)
      rw [e1, e2, e4, b]
      exact List.Perm.of_eq (head_tail _)
    · exact h
  case nextBack =>
    split
    · rename_i it I
      obtain ⟨a, b, c⟩ := nextBack_refines it (h.2 it List.mem_cons_self)
      obtain ⟨e1, e2, -, e4⟩ := afterNext_item [] _ _ a
      refine iter_step_ledger h ?_ (e4 ▸ c)
      rw [e1, e2, e4, b]
      exact List.perm_append_comm.trans (.of_eq (dropLast_getLast _))
    · exact h
  case nth k =>
    split
    · obtain ⟨e, -, c⟩ := nthD_partition _ (h.2 _ List.mem_cons_self) k none
      rw [dropIter_eq] at e
      exact iter_step_ledger h (.of_eq e) c
    · exact h
  case nthBack k =>
    split
    · obtain ⟨e, -, c⟩ := nthBackD_partition _ (h.2 _ List.mem_cons_self) k none
      rw [dropIter_eq] at e
      exact iter_step_ledger h e c
    · exact h
  case iterClone =>
    split
    · rename_i it I
      have hs := cloneLoop_total (fun k => n + k) (asSlice it) 0 []
      rw [List.nil_append] at hs
      unfold cloneD
      rw [Bridge.IterOwn.cloneGuarded_eq]
      split
      · rename_i heq; rw [heq] at hs; cases hs
        obtain ⟨hi, habs⟩ := ofList_inv ((List.range' 0 (asSlice it).length).map fun k => n + k)
        refine h.step _ rfl (List.forall_mem_cons.mpr ⟨hi, h.2⟩) fun x => ?_
        simp only [ga_count, habs, List.length_map, List.length_range', List.range_eq_range']
        omega
      · exact h
    · exact h
  case iterDrop =>
    split
    · exact iter_consume_ledger h (dropIter_perm _)
    · exact h
  case iterCount =>
    split
    · exact iter_consume_ledger h (dropIter_perm _)
    · exact h
  case iterLast =>
    split
    · exact iter_consume_ledger h (.trans (.of_eq (List.append_nil _).symm) (lastD_partition _ (h.2 _ List.mem_cons_self) none).1)
    · exact h
  case iterFold =>
    split
    · exact iter_consume_ledger h (List.perm_append_comm.trans (C04.iter_fold_ledger _ _).1)
    · exact h
  case iterRfold =>
    split
    · exact iter_consume_ledger h (List.perm_append_comm.trans (C04.iter_rfold_ledger _ _).1)
    · exact h
  case map =>
    split
    · rename_i a A
      have hl := (C04.map_ledger .owned (fun i => some (n + i)) a).1
      have hs := C08.map_spec .owned (fun i => n + i) a
      split
      · rename_i heq; rw [heq] at hl hs
        exact h.collected (.refl _) hl hs.2.2
      · exact h
    · exact h
  case zip =>
    split
    · rename_i a b A
      split
      · rename_i hl
        have hp := (C04.zip_ledger .owned .owned (fun i => some (n + i)) a b hl).1
        have hs := C08.zip_spec .owned .owned true true (fun i => n + i) a b hl
        split
        · rename_i heq; rw [heq] at hp hs
          exact h.collected ((List.Perm.of_eq (List.append_assoc ..).symm).trans (List.perm_append_comm.append_right _))
            hp hs.2.2
        · exact h
      · exact h
    · exact h
  case fold =>
    split
    · rename_i a A
      have hp := (C04.fold_ledger .owned (fun _ => true) a).1
      rw [C04.foldOp_takes, List.append_nil] at hp
      exact h.same h.2 fun x => by
        have := hp.count_eq x
        simp only [ga_count, C04.ownedInputs, reduceCtorEq, or_self, if_false] at this ⊢; omega
    · exact h
  case clone =>
    split
    · rename_i a A
      have hs := (C08.clone_spec (fun i => n + i) a).1
      split
      · rename_i heq; rw [heq] at hs; cases hs
        exact h.fresh a.length
      · exact h
    · exact h
  case append =>
    simp only [C09.append_spec]
    split
    · exact h.same h.2 fun x => by simp only [ga_count]; omega
    · exact h
  case prepend =>
    simp only [C09.prepend_spec]
    split
    · exact h.same h.2 fun x => by simp only [ga_count]; omega
    · exact h
  case popBack =>
    split
    · rename_i a A
      rcases List.eq_nil_or_concat a with rfl | ⟨xs, y, rfl⟩
      · exact h
      · rw [List.concat_eq_append] at h ⊢
        rw [if_neg (by simp), C09.pop_back_spec]
        exact h.hand List.perm_append_comm
    · exact h
  case popFront =>
    split
    · rename_i a A
      cases a with
      | nil => exact h
      | cons y t =>
        rw [if_neg (by simp), C09.pop_front_spec]
        exact h.hand (.refl _)
    · exact h
  case split k =>
    split
    · split
      · rw [C09.split_spec _ k ‹_›]
        exact h.perm (take_drop_flatten k _ _) (.refl _) (.refl _)
      · exact h
    · exact h
  case concat =>
    simp only [C09.concat_spec]
    split
    · exact h.perm (.of_eq (List.append_assoc ..)) (.refl _) (.refl _)
    · exact h
  case remove i =>
    split
    · rename_i a A
      by_cases hi : i < a.length
      · rw [C09.remove_spec a i hi]
        exact h.hand (Seq.eraseIdx_perm a i hi)
      · rw [(C09.remove_oob a i (by omega)).1]
        exact h.dropFront
    · exact h
  case swapRemove i =>
    split
    · rename_i a A
      by_cases hi : i < a.length
      · rw [C09.swap_remove_spec a i hi]
        exact h.hand (Seq.swap_perm a i hi)
      · rw [(C09.remove_oob a i (by omega)).2]
        exact h.dropFront
    · exact h
  case flatten2 =>
    split
    · split
      · exact h.perm (.of_eq (List.append_assoc ..)) (.refl _) (.refl _)
      · exact h
    · exact h
  case unflatten k =>
    split
    · split
      · exact h.perm (take_drop_flatten k _ _) (.refl _) (.refl _)
      · exact h
    · exact h
  case collect k =>
    have hp := (tryFromIter_moves iterSrc_contract rfl k (0, some H.length) (Consumer.ofList H) rfl).1
    obtain ⟨hg, ht⟩ := iterSrc_quiet k (0, some H.length) (Consumer.ofList H)
    rw [hg, ht] at hp
    rw [libFrags_eq]
    -- `Ok`, `Err` and panic alike: what the caller held is now in the drop log or in the returned array
    split <;> rename_i heq <;> rw [heq] at hp <;>
      exact h.same h.2 fun x => by
        have := hp.count_eq x
        simp only [ga_count, Res.ids, Consumer.owned, Consumer.ofList, List.drop_zero] at this ⊢
        omega
  case roundtrip => exact h
  case dropArr =>
    split
    · exact h.dropFront
    · exact h
  case dropHeld =>
    split
    · exact h.same h.2 fun x => by simp only [ga_count]; omega
    · exact h

end GA.Pool
