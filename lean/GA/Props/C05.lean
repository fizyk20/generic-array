import GA.Lemmas.IterOwn
import GA.Lemmas.Ops
import GA.Props.C04
/-!
# C05 — a panicking element destructor never causes a second drop or a stale read

`bad : Option Id` is the single element whose destructor panics; it is universally quantified, as
are the iterator position `(front, back)`, the skip count `n` and the length.  The statement-order
facts (`nth` stores the index *before* dropping the skipped range) are regenerated from
src/iter.rs and enter through `GA.Bridge.IterOwn`.
-/
namespace GA.Props.C05
open GA.Iter GA.IterOwn GA.Own GA.Gen GA.Ops

/-- **`nth`**: the destructors run inside `nth`, the element handed to the caller, and the elements
    the iterator's own `Drop` releases afterwards are pairwise distinct — whichever destructor
    panics, from every position, for every `n`.  (More: together they are exactly the live elements.) -/
theorem nth_no_double_drop (it : Iter) (h : Inv it) (hnd : it.slots.Nodup) (n : Nat) (bad : Option Id) :
    (drops (nthD it n bad).1 ++ gives (nthD it n bad).1 ++ drops (dropIter (nthD it n bad).2.2)).Nodup := by
  rw [(nthD_partition it h n bad).1]; exact abs_nodup it hnd

theorem nth_back_no_double_drop (it : Iter) (h : Inv it) (hnd : it.slots.Nodup) (n : Nat) (bad : Option Id) :
    (drops (nthBackD it n bad).1 ++ gives (nthBackD it n bad).1 ++
      drops (dropIter (nthBackD it n bad).2.2)).Nodup :=
  ((nthBackD_partition it h n bad).1.nodup_iff).mpr (abs_nodup it hnd)

/-- nothing is read after it was dropped: the element `nth` returns is not among those it dropped,
    and the iterator left behind never exposes a dropped or returned element again -/
theorem nth_no_stale_read (it : Iter) (h : Inv it) (hnd : it.slots.Nodup) (n : Nat) (bad : Option Id) (x : Id)
    (hx : x ∈ drops (nthD it n bad).1 ++ gives (nthD it n bad).1) : x ∉ abs (nthD it n bad).2.2 := by
  have hd := nth_no_double_drop it h hnd n bad
  rw [dropIter_eq] at hd
  exact fun hmem => (List.nodup_append.mp hd).2.2 x hx x hmem rfl

/-- … and not vacuously, by dropping nothing: the destructors run in `nth`, the element returned and what
    the iterator's `Drop` releases later are, in order, *all* of the live range — nothing leaks, also when a
    destructor panics (slice drop glue runs the remaining destructors). -/
theorem nth_releases_all (it : Iter) (h : Inv it) (n : Nat) (bad : Option Id) :
    drops (nthD it n bad).1 ++ gives (nthD it n bad).1 ++ drops (dropIter (nthD it n bad).2.2) = abs it :=
  (nthD_partition it h n bad).1

/-- **`last`, `count`, plain drop**: each live element's destructor runs at most once, whichever
    destructor panics (`last`: the in-flight return value may be abandoned by unwinding — a leak) -/
theorem last_no_double_drop (it : Iter) (h : Inv it) (hnd : it.slots.Nodup) (bad : Option Id) :
    (drops (lastD it bad).1 ++ gives (lastD it bad).1).Nodup := by
  obtain ⟨hp, _⟩ := lastD_partition it h bad
  have := (hp.nodup_iff).mpr (abs_nodup it hnd)
  exact (List.nodup_append.mp this).1

theorem count_drop_once (it : Iter) (hnd : it.slots.Nodup) (bad : Option Id) :
    (drops (countD it bad).1).Nodup := by
  unfold countD; rw [dropIter_eq]; exact abs_nodup it hnd

theorem iter_drop_once (it : Iter) (hnd : it.slots.Nodup) : (drops (dropIter it)).Nodup := by
  rw [dropIter_eq]; exact abs_nodup it hnd

/-- **builder / consumer destructors** (`drop_in_place` over `out[..pos]` / `slots[pos..]`): sub-slices
    of distinct elements, each destructor once, whichever panics; the ranges are the regenerated ones -/
theorem builder_drop_once (out : List Id) (pos n : Nat) (hnd : out.Nodup) (bad : Option Id) :
    (drops (dropInPlace (sliceOf out (Lib.builderDropLo pos n) (Lib.builderDropHi pos n)) bad).1).Nodup ∧
    sliceOf out (Lib.builderDropLo pos n) (Lib.builderDropHi pos n) = out.take pos := by
  simp only [ga_bridge, dropInPlace, drops_map_drop]
  exact ⟨(sliceOf_sublist _ _ _).nodup hnd, by simp [sliceOf]⟩

theorem consumer_drop_once (slots : List Id) (pos : Nat) (hnd : slots.Nodup) (bad : Option Id) :
    (drops (dropInPlace (sliceOf slots (Lib.consumerDropLo pos slots.length) (Lib.consumerDropHi pos slots.length)) bad).1).Nodup ∧
    sliceOf slots (Lib.consumerDropLo pos slots.length) (Lib.consumerDropHi pos slots.length) = slots.drop pos := by
  simp only [ga_bridge, dropInPlace, drops_map_drop]
  refine ⟨(sliceOf_sublist _ _ _).nodup hnd, ?_⟩
  unfold sliceOf
  rw [List.take_of_length_le]; simp

/-- **teardown of `try_from_iter` / `from_iter` intermediates** (stack and boxed, every script and
    hint) when any one element's destructor panics: no element is released twice and none that was
    never written is released — the event sequence is `collectOp`'s, whose ledger is C04's -/
theorem collect_teardown_once (boxed try_ : Bool) (n : Nat) (hint : Nat × Option Nat) (sc : Script) (bad : Option Id) :
    (collectOpD boxed try_ n hint sc bad).1 = (collectOp boxed try_ n hint sc).1 ∧
    C04.Ledger [] (collectOp boxed try_ n hint sc) := by
  refine ⟨?_, C04.collect_ledger boxed try_ n hint sc⟩
  unfold collectOpD
  cases bad with
  | none => rfl
  | some b => simp only []; split <;> rfl

/-- the array's own drop glue runs over all `N` slots once (C01: the storage holds exactly the
    `N` elements), and a panicking destructor does not repeat any -/
theorem array_drop_once (xs : List Id) (hnd : xs.Nodup) (bad : Option Id) :
    (drops (dropInPlace xs bad).1).Nodup := by simpa [dropInPlace] using hnd

/-- **`clone_from`** (the trait default `*self = source.clone()`; regenerated flag: `Clone for GenericArray` does
    not override it): for every `T::clone` behaviour (panicking at any call or never) and whichever old element's
    destructor panics, the call is defined, and everything that ever existed — the old contents and every clone
    made — is accounted for exactly once: dropped inside the call, or held by `a` afterwards (`final`), which
    the caller releases once.  Nothing is handed out, no unwritten slot is dropped. -/
theorem clone_from_ledger (f : Nat → Option Id) (old xs : List Id) (bad : Option Id) :
    ∃ r, cloneFromOp f old xs bad = some r ∧
      (gives r.ev ++ drops r.ev ++ r.final).Perm (old ++ takes r.ev) ∧ uninitDrops r.ev = 0 := by
  have hl : Moves (cloneOp f xs).1 [] (cloneOp f xs).2.ids := C04.clone_ledger f xs
  unfold cloneFromOp
  rw [Bridge.Lib.cloneFromIsDefault_eq, if_pos rfl]
  cases hres : (cloneOp f xs).2 <;> rw [hres] at hl <;> simp only [hres]
  · exact ⟨_, rfl, (hl.frame_right old).append (by simpa [Res.ids] using (moves_drop old).frame_left _)⟩
  · exact ⟨_, rfl, hl.frame_right old⟩
  · exact ⟨_, rfl, hl.frame_right old⟩

/-- … hence no element is released twice: with distinct ids, the drops inside the call together with what the
    caller still holds (and drops later) have no repetition, whichever destructor or clone call panics -/
theorem clone_from_once (f : Nat → Option Id) (old xs : List Id) (bad : Option Id) (r : CloneFrom)
    (h : cloneFromOp f old xs bad = some r) (hnd : (old ++ takes r.ev).Nodup) :
    (drops r.ev ++ r.final).Nodup := by
  obtain ⟨r', hr', hp, _⟩ := clone_from_ledger f old xs bad
  rw [h] at hr'; cases hr'
  have : (gives r.ev ++ drops r.ev ++ r.final).Nodup := hp.nodup_iff.mpr hnd
  rw [List.append_assoc] at this
  exact (List.nodup_append.mp this).2.1

-- a run: 3 old elements, destructor of old element 2 panics; the clones 1000.. are in place afterwards
example : (cloneFromOp (fun i => some (1000 + i)) [1, 2, 3] [101, 102, 103] (some 2)).map (fun r => (r.res, r.final, drops r.ev)) =
    some (.panicked, [1000, 1001, 1002], [1, 2, 3]) := by rfl
-- `T::clone` panics at the second call: the one clone made is released, `a` keeps its old contents
example : (cloneFromOp (fun i => if i = 1 then none else some (1000 + i)) [1, 2, 3] [101, 102, 103] none).map (fun r => (r.res, r.final, drops r.ev)) =
    some (.panicked, [1, 2, 3], [1000]) := by rfl

/-! The statement distinguishes.  With the statement order `nth` had before its repair in /repo (KNOWN_FINDINGS.txt:
    drop first, store the index afterwards) the same claim is false: `N = 5`, `nth(2)`, the destructor of element 0
    panics — elements 0 and 1 are dropped again by the iterator's `Drop`. -/
def nthOld (it : Iter) (n : Nat) (bad : Option Id) : List Id :=
  let nx := it.front + min n (it.back - it.front)
  let skipped := sliceOf it.slots it.front nx
  skipped ++ (if panics skipped bad then sliceOf it.slots it.front it.back else sliceOf it.slots (nx + 1) it.back)
example : ¬ (nthOld ⟨[0, 1, 2, 3, 4], 0, 5⟩ 2 (some 0)).Nodup := by decide
example : nthOld ⟨[0, 1, 2, 3, 4], 0, 5⟩ 2 (some 0) = [0, 1, 0, 1, 2, 3, 4] := by rfl
example : Inv ⟨[0, 1, 2, 3, 4], 1, 4⟩ ∧ ([0, 1, 2, 3, 4] : List Nat).Nodup := by
  unfold GA.Iter.Inv; decide
example : (nthD ⟨[0, 1, 2, 3, 4], 0, 5⟩ 2 (some 0)).2.1 = .panicked := by decide

end GA.Props.C05

#print axioms GA.Props.C05.nth_no_double_drop
#print axioms GA.Props.C05.nth_back_no_double_drop
#print axioms GA.Props.C05.nth_no_stale_read
#print axioms GA.Props.C05.nth_releases_all
#print axioms GA.Props.C05.last_no_double_drop
#print axioms GA.Props.C05.count_drop_once
#print axioms GA.Props.C05.iter_drop_once
#print axioms GA.Props.C05.builder_drop_once
#print axioms GA.Props.C05.consumer_drop_once
#print axioms GA.Props.C05.array_drop_once
#print axioms GA.Props.C05.clone_from_ledger
#print axioms GA.Props.C05.clone_from_once
#print axioms GA.Props.C05.collect_teardown_once
