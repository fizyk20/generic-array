import GA.Bridge.SeqBody
/-!
# C09 / C03 on the interpreted bodies of src/sequence.rs

The statements of `GA.Props.C09` restated for `MemBody.run` on the statement lists regenerated from the source
(`GA.Gen.SeqBody`), so that a statement of these functions that is in no fragment — a third `ptr::write`, a missing
`ManuallyDrop`, a changed copy count, a moved `assert!` — changes the object the theorem is about.
-/
namespace GA.Props.BodySeq
open GA.MemBody GA.Gen GA.Bridge.SeqBody GA.Seq

def accounted : Out → List Nat
  | .ok vals drops => vals.flatten ++ drops
  | .panic drops => drops
  | .ub => []

/-- **C09** `append` = `Vec::push`, `prepend` = `Vec::insert(0, _)`, `concat` = `Vec::extend`, for every length -/
theorem C09_body_lengthen (xs ys : List Nat) (x k i : Nat) :
    run SeqBody.append ⟨xs.length, k, i⟩ xs [x] = .ok [xs ++ [x]] [] ∧
    run SeqBody.prepend ⟨xs.length, k, i⟩ xs [x] = .ok [x :: xs] [] ∧
    run SeqBody.concat ⟨xs.length, ys.length, i⟩ xs ys = .ok [xs ++ ys] [] :=
  ⟨append_body xs x k i, prepend_body xs x k i, concat_body xs ys i⟩

/-- **C09** `pop_back` = `Vec::pop`, `pop_front` = `Vec::remove(0)` (typed only for `N ≥ 1`), owned `split` = `split_at(K)` -/
theorem C09_body_shorten (xs : List Nat) (x k i : Nat) :
    run SeqBody.popBack ⟨(xs ++ [x]).length, k, i⟩ (xs ++ [x]) [] = .ok [xs, [x]] [] ∧
    run SeqBody.popFront ⟨(x :: xs).length, k, i⟩ (x :: xs) [] = .ok [[x], xs] [] ∧
    (k ≤ xs.length → run SeqBody.split ⟨xs.length, k, i⟩ xs [] = .ok [xs.take k, xs.drop k] []) :=
  ⟨popBack_body xs x k i, popFront_body xs x k i, split_body xs k i⟩

/-- **C09** `remove(i)` = `Vec::remove(i)` and `swap_remove(i)` = `Vec::swap_remove(i)` for `i < N`; for `i ≥ N` both panic
    before the array is taken apart, and the array is dropped whole by the function's own scope -/
theorem C09_body_remove (xs : List Nat) (i k : Nat) :
    (run SeqBody.remove ⟨xs.length, k, i⟩ xs [] =
      if h : i < xs.length then .ok [[xs[i]], xs.eraseIdx i] [] else .panic xs) ∧
    (run SeqBody.swapRemove ⟨xs.length, k, i⟩ xs [] =
      if h : i < xs.length then .ok [[xs[i]], (xs.set i (xs[xs.length - 1]'(by omega))).take (xs.length - 1)] []
      else .panic xs) :=
  ⟨remove_body xs i k, swapRemove_body xs i k⟩

/-- **C03** every element of the inputs is accounted for exactly once — returned in one of the results or dropped by
    the function's own scope end — by every one of the eight operations, for every length and index -/
theorem C03_body_seq_exactly_once (xs ys : List Nat) (x k i : Nat) :
    (accounted (run SeqBody.append ⟨xs.length, k, i⟩ xs [x])).Perm (xs ++ [x]) ∧
    (accounted (run SeqBody.prepend ⟨xs.length, k, i⟩ xs [x])).Perm (xs ++ [x]) ∧
    (accounted (run SeqBody.concat ⟨xs.length, ys.length, i⟩ xs ys)).Perm (xs ++ ys) ∧
    (accounted (run SeqBody.popBack ⟨(xs ++ [x]).length, k, i⟩ (xs ++ [x]) [])).Perm (xs ++ [x]) ∧
    (accounted (run SeqBody.popFront ⟨(x :: xs).length, k, i⟩ (x :: xs) [])).Perm (x :: xs) ∧
    (k ≤ xs.length → (accounted (run SeqBody.split ⟨xs.length, k, i⟩ xs [])).Perm xs) ∧
    (accounted (run SeqBody.remove ⟨xs.length, k, i⟩ xs [])).Perm xs ∧
    (accounted (run SeqBody.swapRemove ⟨xs.length, k, i⟩ xs [])).Perm xs := by
  refine ⟨?_, ?_, ?_, ?_, ?_, ?_, ?_, ?_⟩
  · rw [append_body]; simp [accounted]
  · rw [prepend_body]; simp [accounted]; exact List.perm_append_comm (l₁ := [x])
  · rw [concat_body]; simp [accounted]
  · rw [popBack_body]; simp [accounted]
  · rw [popFront_body]; simp [accounted]
  · intro hk; rw [split_body xs k i hk]; simp [accounted]
  · rw [remove_body]
    by_cases h : i < xs.length
    · simp only [h, dite_true, accounted, List.flatten_cons, List.flatten_nil, List.append_nil, List.singleton_append]
      exact eraseIdx_perm xs i h
    · simp [h, accounted]
  · rw [swapRemove_body]
    by_cases h : i < xs.length
    · simp only [h, dite_true, accounted, List.flatten_cons, List.flatten_nil, List.append_nil, List.singleton_append]
      exact swap_perm xs i h
    · simp [h, accounted]

/-- **C09** by-reference `split` (`&` and `&mut`) on the interpreted bodies: the two views start at the array's
    address, are adjacent, together cover exactly the `N` elements, lie inside the extent the pointer they were made
    from is good for, and — for `&mut` — are writable and do not overlap (the interpretation is `.views`, not `.ub`) -/
theorem C09_body_split_views (n k i : Nat) (hk : k ≤ n) :
    runViews false SeqBody.splitRef ⟨n, k, i⟩ = .views [⟨0, k, false⟩, ⟨k, n - k, false⟩] ∧
    runViews true SeqBody.splitMut ⟨n, k, i⟩ = .views [⟨0, k, true⟩, ⟨k, n - k, true⟩] ∧
    0 + k = k ∧ k + (n - k) = n :=
  ⟨splitRef_body n k i hk, splitMut_body n k i hk, Nat.zero_add k, Nat.add_sub_cancel' hk⟩

/-! Runs on the regenerated bodies, and on bodies that differ by one statement: the statements above are false of those. -/
example : run SeqBody.remove ⟨4, 0, 2⟩ [10, 11, 12, 13] [] = .ok [[12], [10, 11, 13]] [] := rfl
example : run SeqBody.swapRemove ⟨4, 0, 1⟩ [10, 11, 12, 13] [] = .ok [[11], [10, 13, 12]] [] := rfl
example : run SeqBody.remove ⟨2, 0, 2⟩ [10, 11] [] = .panic [10, 11] := rfl
example : run SeqBody.split ⟨5, 2, 0⟩ [1, 2, 3, 4, 5] [] = .ok [[1, 2], [3, 4, 5]] [] := rfl
example : run SeqBody.concat ⟨2, 3, 0⟩ [1, 2] [3, 4, 5] = .ok [[1, 2, 3, 4, 5]] [] := rfl
-- `pop_back` without the `ManuallyDrop`: the source is dropped as well — every element is released twice
example : run [.readBlock 0 .self (.lit 0) (.sub .n (.lit 1)), .readBlock 1 .self (.sub .n (.lit 1)) (.lit 1), .ret [0, 1]]
    ⟨3, 0, 0⟩ [1, 2, 3] [] = .ok [[1, 2], [3]] [1, 2, 3] := rfl
-- `remove` copying one element too many reads past the array
example : run [.manuallyDrop .self, .readBlock 0 .self .idx (.lit 1),
    .copyWithin .self (.add .idx (.lit 1)) .idx (.sub .n .idx), .prefixOf 1 .self (.sub .n (.lit 1)), .ret [0, 1]]
    ⟨3, 0, 1⟩ [1, 2, 3] [] = .ub := rfl
-- `prepend` writing `self` at offset 0 as well leaves the last slot unwritten
example : run [.allocOut (.add .n (.lit 1)), .writeOut (.lit 0) .arg, .writeOut (.lit 0) .self, .retOut] ⟨2, 0, 0⟩ [1, 2] [9] = .ub :=
  rfl

-- the tail made from a pointer that was derived from the *head* view is outside what that pointer is good for
example : runViews true [.ptrSelf 0 true, .viewAt 0 0 (.lit 0) .k true, .ptrOfView 1 0 true, .viewAt 1 1 .k (.sub .n .k) true,
    .retViews [0, 1]] ⟨5, 2, 0⟩ = .ub := rfl
-- a `&mut` view made from `as_ptr()` (a pointer that may not be written through)
example : runViews true [.ptrSelf 0 false, .viewAt 0 0 (.lit 0) .k true, .viewAt 1 0 .k (.sub .n .k) true, .retViews [0, 1]]
    ⟨5, 2, 0⟩ = .ub := rfl
-- overlapping mutable halves
example : runViews true [.ptrSelf 0 true, .viewAt 0 0 (.lit 0) .k true, .viewAt 1 0 (.lit 1) (.sub .n (.lit 1)) true, .retViews [0, 1]]
    ⟨5, 2, 0⟩ = .ub := rfl
example : runViews true SeqBody.splitMut ⟨5, 2, 0⟩ = .views [⟨0, 2, true⟩, ⟨2, 3, true⟩] := rfl

end GA.Props.BodySeq

#print axioms GA.Props.BodySeq.C09_body_split_views
#print axioms GA.Props.BodySeq.C09_body_lengthen
#print axioms GA.Props.BodySeq.C09_body_shorten
#print axioms GA.Props.BodySeq.C09_body_remove
#print axioms GA.Props.BodySeq.C03_body_seq_exactly_once
