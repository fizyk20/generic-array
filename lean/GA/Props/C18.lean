import GA.Model.ConstEval
import GA.Bridge.ConstApi
import GA.Bridge.Mem
import GA.Bridge.Layout
import GA.Props.C02
import GA.Props.C10
/-!
# C18 — the const API evaluates at compile time without UB and agrees with run time
-/
namespace GA.Props.C18
open GA.ConstEval GA.Mem GA.Gen GA.Bridge.ConstApi

/-- when does a call end in the documented panic ("evaluation panicked") -/
def documentedPanic : Call → Bool
  | .fromSlice n len => decide (len ≠ n)
  | .fromMutSlice n len => decide (len ≠ n)
  | .chunks n len => decide (n = 0) && decide (len ≠ 0)
  | .chunksMut n len => decide (n = 0) && decide (len ≠ 0)
  | .transmute sa sb _ _ => decide (sa ≠ sb)
  | _ => false

theorem chunks_verdict (len n : Nat) (m u : Bool) (hu : (!m || u) = true) :
    ofChunks len n m u (chunksFromSlice len n) = if n = 0 then (if len = 0 then .accept else .panic) else .accept := by
  by_cases hn : n = 0
  · subst hn
    rw [C10.chunks_n_zero, if_pos rfl]
    by_cases hl : len = 0 <;> simp only [hl, if_true, if_false, ofChunks]
  · have e := Nat.div_add_mod' len n
    rw [C10.chunksFromSlice_pos len n (Nat.pos_of_ne_zero hn), if_neg hn]
    simp only [ofChunks, judge, refOk, hu, Nat.zero_add, e, Nat.le_refl, Nat.div_mul_le_self, decide_true, Bool.and_self,
      List.all_cons, List.all_nil, if_true]

/-- **no UB, ever**: for every function of the const API and every length, slice length, chunk
    count and element size, the interpreter either accepts the call or stops at the documented
    panic; it never sees an out-of-bounds or dangling reference, a write through a shared-derived
    pointer, or a non-const call -/
theorem const_api_verdict (c : Call) : eval c = if documentedPanic c then .panic else .accept := by
  -- `isConst` lets every call through: each name it is asked about is in the regenerated list of `const fn`s
  have hc := all_const
  simp only [List.forall_mem_cons, List.not_mem_nil, false_imp_iff, implies_true, and_true] at hc
  cases c <;> simp only [eval, isConst, hc, if_true, documentedPanic, Bool.false_eq_true, if_false]
  case asSlice n => simp [C02.view_same, judge, refOk]
  case asMutSlice n => simp [C02.view_same, judge, refOk, ga_bridge]
  case fromSlice n len =>
    rw [(C02.reinterpret_exact len n).1]
    by_cases h : len = n <;> simp [h, ofRes, judge, refOk]
  case tryFromSlice n len =>
    rw [(C02.reinterpret_exact len n).2.1]
    by_cases h : len = n <;> simp [h, ofRes, judge, refOk]
  case fromMutSlice n len =>
    rw [(C02.reinterpret_exact len n).2.2.1]
    by_cases h : len = n <;> simp [h, ofRes, judge, refOk, ga_bridge]
  case tryFromMutSlice n len =>
    rw [(C02.reinterpret_exact len n).2.2.2.1]
    by_cases h : len = n <;> simp [h, ofRes, judge, refOk, ga_bridge]
  case chunks n len =>
    rw [chunks_verdict len n false false rfl]
    by_cases hn : n = 0 <;> by_cases hl : len = 0 <;> simp [hn, hl]
  case chunksMut n len =>
    rw [C10.chunks_mut_same, chunksMutProvenanceOk_eq, chunks_verdict len n true true rfl]
    by_cases hn : n = 0 <;> by_cases hl : len = 0 <;> simp [hn, hl]
  case flat n k => simp [C10.sliceFromChunks_eq, judge, refOk]
  case flatMut n k => simp [C10.sliceFromChunks_eq, ga_bridge, judge, refOk]
  case fromArray n esz => simp [ga_bridge, C02.transmute_checked, ofUnit]
  case intoArray n esz => simp [ga_bridge, C02.transmute_checked, ofUnit]
  case fromChunks n k => simp [C10.reinterpret_same, ofOpt, judge, refOk]
  case fromChunksMut n k => simp [C10.reinterpret_same, ofOpt, judge, refOk]
  case intoChunks n k => simp [C10.reinterpret_same, ofOpt, judge, refOk]
  case intoChunksMut n k => simp [C10.reinterpret_same, ofOpt, judge, refOk]
  case transmute sa sb aa ab =>
    rw [C02.transmute_checked]
    by_cases h : sa = sb <;> simp [h, ga_bridge]

theorem never_ub (c : Call) : eval c ≠ .ub ∧ eval c ≠ .notConst := by
  rw [const_api_verdict]; split <;> simp

/-- agreement with run time: the interpreter accepts exactly the calls that do not panic at run
    time, and both see the view the run-time model (C02, C10) describes -/
theorem accept_iff_runtime_ok_fromSlice (n len : Nat) :
    eval (.fromSlice n len) = .accept ↔ fromSlice len n = .ok ⟨0, n⟩ := by
  rw [const_api_verdict, (C02.reinterpret_exact len n).1]
  by_cases h : len = n <;> simp [documentedPanic, h]

theorem accept_iff_runtime_ok_chunks (n len : Nat) (hn : 0 < n) :
    eval (.chunks n len) = .accept ∧
      chunksFromSlice len n = .ok ⟨0, len / n⟩ ⟨len / n * n, len % n⟩ := by
  refine ⟨?_, C10.chunksFromSlice_pos len n hn⟩
  rw [const_api_verdict]
  simp only [documentedPanic, Nat.ne_of_gt hn, decide_false, Bool.false_and, Bool.false_eq_true, if_false]

/-- `const_transmute` itself, for any pair of types: accepted iff the sizes agree, whatever the
    alignments (the value moves through a union, never through a re-typed pointer) -/
theorem const_transmute_verdict (sa sb aa ab : Nat) :
    eval (.transmute sa sb aa ab) = if sa = sb then .accept else .panic := by
  rw [const_api_verdict]; by_cases h : sa = sb <;> simp [documentedPanic, h]

example : eval (.chunks 3 7) = .accept := by rw [const_api_verdict]; rfl
example : eval (.fromSlice 3 4) = .panic := by rw [const_api_verdict]; rfl
example : judge 7 [⟨0, 18, false, false⟩] = .ub := rfl      -- what a 3x too long chunk slice looks like
example : judge 4 [⟨0, 4, true, false⟩] = .ub := rfl        -- a `&mut` from a shared-derived pointer

end GA.Props.C18

#print axioms GA.Props.C18.const_api_verdict
#print axioms GA.Props.C18.never_ub
#print axioms GA.Props.C18.chunks_verdict
#print axioms GA.Props.C18.accept_iff_runtime_ok_fromSlice
#print axioms GA.Props.C18.accept_iff_runtime_ok_chunks
