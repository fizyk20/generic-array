import GA.Model.Heap
import GA.Bridge.Heap
import GA.Bridge.Lib
import GA.Props.C07
/-!
# C15 — heap interop preserves contents, needs exact length, and reuses the allocation
-/
namespace GA.Props.C15
open GA.Heap GA.Own GA.Ops GA.Gen

/-- `try_from_boxed_slice`: succeeds exactly when the length is `N`; then the same elements in the
    same order in the *same heap block* (a pointer cast); otherwise `LengthError` and every source
    element is dropped (by the returned-to-caller `Box<[T]>` going out of scope) exactly once -/
theorem try_from_boxed_slice_spec (items : List Id) (n : Nat) :
    tryFromBoxedSlice items n = (if items.length = n then .ok items true else .err items) := by
  unfold tryFromBoxedSlice
  by_cases h : items.length = n <;> simp [ga_bridge, h]

/-- `try_from_vec`: the same, and the block is handed over unchanged when `len == capacity` -/
theorem try_from_vec_spec (items : List Id) (cap n : Nat) :
    tryFromVec items cap n =
      (if items.length = n then .ok items (decide (items.length = cap)) else .err items) := by
  unfold tryFromVec
  rw [try_from_boxed_slice_spec]
  by_cases h : items.length = n <;> simp [ga_bridge, h]

/-- `TryFrom<Vec<T>>` / `TryFrom<Box<[T]>>` for the by-value array -/
theorem try_from_vec_owned_spec (items : List Id) (n : Nat) :
    tryFromVecOwned items n = (if items.length = n then .ok items false else .err items) := by
  unfold tryFromVecOwned
  by_cases h : items.length = n <;> simp [ga_bridge, h]

/-- the documented O(1) conversions keep every element, in order, in the same block -/
theorem into_boxed_slice_spec (items : List Id) : intoBoxedSlice items = .ok items true ∧ intoVec items = .ok items true := by
  unfold intoVec intoBoxedSlice
  simp [ga_bridge]

/-- the length check happens while the source is still an owned box (so the error path drops it) -/
theorem check_before_ownership_transfer : Alloc.boxedSliceCheckBeforeIntoRaw = true := by simp [ga_bridge]

/-- boxed `from_iter` agrees with the stack form on every source (C07) and builds in a `Vec`
    of capacity `N`, never on the stack; `default_boxed` is boxed `generate` (C16), which writes each
    element straight into the heap block -/
theorem boxed_constructors :
    (∀ try_ n hint sc, collectOp true try_ n hint sc = collectOp false try_ n hint sc) ∧
    Alloc.capacity = (fun n => n) ∧ Alloc.takeCount = (fun n => n) ∧ Alloc.defaultBoxedIsGenerate = true := by
  exact ⟨fun t n h s => C07.boxed_agrees t n h s, funext Bridge.Alloc.capacity_eq, funext Bridge.Alloc.takeCount_eq,
    Bridge.Heap.defaultBoxedIsGenerate_eq⟩

example : tryFromVec [1, 2, 3] 3 3 = .ok [1, 2, 3] true := by rfl
example : tryFromVec [1, 2, 3] 8 3 = .ok [1, 2, 3] false := by rfl
example : tryFromVec [1, 2, 3, 4] 4 3 = .err [1, 2, 3, 4] := by rfl

end GA.Props.C15

#print axioms GA.Props.C15.try_from_boxed_slice_spec
#print axioms GA.Props.C15.try_from_vec_spec
#print axioms GA.Props.C15.try_from_vec_owned_spec
#print axioms GA.Props.C15.into_boxed_slice_spec
#print axioms GA.Props.C15.boxed_constructors
