import GA.Bridge.BodySerde
import GA.Props.C17
/-!
C17 on the *interpreted* body of `<GAVisitor<T, N> as Visitor>::visit_seq` (src/impl_serde.rs) — the
function every deserialization of a `GenericArray` runs — over an arbitrary deserializer script.
-/
namespace GA.Props.BodySerde
open GA.Body GA.Own GA.Bridge.BodyCollect GA.Bridge.BodySerde
open GA.Serde (Step)

/-- the deserializer as the interpreter sees it: the answers of the `next_element` calls (a parse
    error is `Poll.panic`), the two `size_hint` answers -/
def serdeCtx (n : Nat) (s : GA.Serde.Script) : Ctx :=
  { n := n, bad := none, fpan := fun _ => false, cl := fun _ => none,
    src := fun j => pollOf (toSc s) (j - s.k),
    ext := { shint0 := s.hint0, shintEnd := s.hintEnd } }

def sst0 (s : GA.Serde.Script) : St := ⟨⟨[], 0, 0, 0, []⟩, ⟨[], 0, 0, 0, []⟩, false, 0, false, s.k, false, {}⟩

def visitRun (n : Nat) (s : GA.Serde.Script) : List Ev × R × St :=
  runFn (serdeCtx n s) Gen.Body.intrusiveDrop.body Gen.Body.visitSeq [] (sst0 s)

theorem visit_run (n : Nat) (hn : n < word) (s : GA.Serde.Script) :
    ((visitRun n s).1, vresOf (visitRun n s).2.1) = ((GA.Serde.visitSeq n s).1, some (GA.Serde.visitSeq n s).2) :=
  visitSeq_body n hn s (serdeCtx n s) rfl rfl (by intro j; simp [serdeCtx]) rfl rfl ⟨[], 0, 0, 0, []⟩

/-- **C17, `Ok` exactly for N elements** — on the interpreted body: accepted iff the up-front hint
    does not contradict `N`, exactly `N` elements are delivered in order, and then the source either
    reports nothing left by its size hint or answers the surplus probe with "nothing" -/
theorem C17_body_ok_iff (n : Nat) (hn : n < word) (h0 he : Option Nat) (steps : List Step) (arr : List Id) :
    vresOf (visitRun n ⟨h0, steps, he, 0⟩).2.1 = some (.ok arr) ↔
      GA.Props.C17.hintAdmits h0 n ∧ arr.length = n ∧ steps.take n = arr.map .elem ∧
        GA.Props.C17.noSurplus he (steps.drop n) := by
  rw [(Prod.mk.inj (visit_run n hn ⟨h0, steps, he, 0⟩)).2, Option.some.injEq]
  exact GA.Props.C17.ok_iff n h0 he steps arr

/-- **C17, what was read is dropped exactly once on every rejection** (too short, too long, hint
    mismatch, element error at any index) and handed over exactly once on acceptance; no
    never-written slot is touched — on the interpreted body with the regenerated builder destructor -/
theorem C17_body_ledger (n : Nat) (hn : n < word) (s : GA.Serde.Script) :
    ∃ res, vresOf (visitRun n s).2.1 = some res ∧
      (drops (visitRun n s).1 ++ res.ids).Perm (takes (visitRun n s).1) ∧ uninitDrops (visitRun n s).1 = 0 := by
  obtain ⟨h1, h2⟩ := Prod.mk.inj (visit_run n hn s)
  exact ⟨_, h2, h1 ▸ GA.Props.C17.read_ledger n s⟩

example : vresOf (visitRun 2 ⟨some 2, [.elem 7, .elem 8], some 0, 0⟩).2.1 = some (.ok [7, 8]) := by decide
-- one element too many: rejected, both elements read are dropped
example : (visitRun 2 ⟨none, [.elem 7, .elem 8, .elem 9], none, 0⟩).1 =
    [.poll 0, .take 0 7, .poll 1, .take 1 8, .poll 2, .drop 7, .drop 8] := by decide
-- the second element fails to parse: the first is dropped, the error returned
example : (visitRun 3 ⟨none, [.elem 7, .fail, .elem 9], none, 0⟩).1 = [.poll 0, .take 0 7, .poll 1, .panic 1, .drop 7] ∧
    vresOf (visitRun 3 ⟨none, [.elem 7, .fail, .elem 9], none, 0⟩).2.1 = some .err := by decide

end GA.Props.BodySerde

#print axioms GA.Bridge.BodySerde.visitSeq_body
#print axioms GA.Props.BodySerde.C17_body_ok_iff
#print axioms GA.Props.BodySerde.C17_body_ledger
