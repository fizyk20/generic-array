import GA.Bridge.BodyClone
import GA.Props.C04
import GA.Props.C08
/-!
C04 / C08 on the *interpreted* body of `Clone for GenericArray` (src/impls.rs; what is inlined into it:
`GA.Bridge.BodyClone`).
-/
namespace GA.Props.BodyClone
open GA.Body GA.Own GA.Bridge.BodyCollect GA.Bridge.BodyClone

def cloneCtx (n : Nat) (f : Nat → Option Id) : Ctx :=
  { n := n, bad := none, fpan := fun _ => false, cl := f }

def cst0 (xs : List Id) : St := ⟨⟨xs, 0, 0, 0, []⟩, ⟨[], 0, 0, 0, []⟩, false, 0, false, 0, false, {}⟩

def cloneRun (f : Nat → Option Id) (xs : List Id) : List Ev × R × St :=
  runFn (cloneCtx xs.length f) Gen.Body.intrusiveDrop.body Gen.Body.gaClone [] (cst0 xs)

theorem clone_run (f : Nat → Option Id) (xs : List Id) (hw : xs.length < word) :
    ((cloneRun f xs).1, resOf (cloneRun f xs).2.1) = ((GA.Ops.cloneOp f xs).1, some (GA.Ops.cloneOp f xs).2) :=
  gaClone_body xs hw (cloneCtx xs.length f) rfl rfl 0

/-- **C08: `Clone` calls `T::clone` on `a[0], a[1], …` once each, in order, and stores clone `i` at
    position `i`** — on the interpreted body -/
theorem C08_body_array_clone (g : Nat → Id) (xs : List Id) (hw : xs.length < word) :
    resOf (cloneRun (fun i => some (g i)) xs).2.1 = some (.ok ((List.range xs.length).map g)) ∧
    GA.Func.args (cloneRun (fun i => some (g i)) xs).1 = (List.range xs.length).zip xs := by
  obtain ⟨h1, h2⟩ := Prod.mk.inj (clone_run (fun i => some (g i)) xs hw)
  obtain ⟨a, b⟩ := GA.Props.C08.clone_spec g xs
  exact ⟨h2.trans (congrArg some a), h1 ▸ b⟩

/-- **C04: whichever `T::clone` call panics**, every clone made so far is dropped exactly once, the
    source array is left alone (nothing of it is given away or dropped), and no never-written slot
    is dropped or returned -/
theorem C04_body_array_clone (f : Nat → Option Id) (xs : List Id) (hw : xs.length < word) :
    ∃ res, resOf (cloneRun f xs).2.1 = some res ∧
      (gives (cloneRun f xs).1 ++ drops (cloneRun f xs).1 ++ res.ids).Perm (takes (cloneRun f xs).1) ∧
      uninitDrops (cloneRun f xs).1 = 0 := by
  simpa using ledger_of_run (clone_run f xs hw) (GA.Props.C04.clone_ledger f xs)

example : resOf (cloneRun (fun i => some (100 + i)) [1, 2, 3]).2.1 = some (.ok [100, 101, 102]) := by decide
-- `clone` panics on the third element: the two clones are dropped, the source is untouched
example : (cloneRun (fun i => if i = 2 then none else some (100 + i)) [1, 2, 3]).1 =
    [.lend 0 1, .take 0 100, .lend 1 2, .take 1 101, .lend 2 3, .panic 2, .drop 100, .drop 101] := by decide

end GA.Props.BodyClone

#print axioms GA.Bridge.BodyClone.gaClone_body
#print axioms GA.Props.BodyClone.C08_body_array_clone
#print axioms GA.Props.BodyClone.C04_body_array_clone
