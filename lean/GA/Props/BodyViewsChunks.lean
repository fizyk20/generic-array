import GA.Bridge.ChunkBody
/-!
# C10 on the interpreted bodies of `chunks_from_slice(_mut)` / `slice_from_chunks(_mut)` (src/lib.rs)
-/
namespace GA.Props.BodyViews
open GA.MemBody GA.Gen GA.Bridge.SeqBody

/-- **C10** `chunks_from_slice` / `chunks_from_slice_mut`, `N > 0`: the two views partition the slice exactly —
    the chunk view starts at the slice's address and holds `len / N` whole chunks, the remainder begins where it ends,
    holds fewer than `N` elements, and ends where the slice ends; both are made from pointers to the argument slice
    (the interpretation is defined), and the mutable ones do not overlap -/
theorem C10_body_chunks_partition (n len i : Nat) (hn : 0 < n) :
    ∃ q r, q * n + r = len ∧ r < n ∧
      runViews false SeqBody.chunksFromSlice ⟨n, len, i⟩ = .views [⟨0, q * n, false⟩, ⟨q * n, r, false⟩] ∧
      runViews true SeqBody.chunksFromSliceMut ⟨n, len, i⟩ = .views [⟨0, q * n, true⟩, ⟨q * n, r, true⟩] := by
  exact ⟨len / n, len - len / n * n, Nat.add_sub_cancel' (Nat.div_mul_le_self len n),
    Nat.mod_eq_sub_div_mul ▸ Nat.mod_lt len hn, chunksFromSlice_body n len i hn, chunksFromSliceMut_body n len i hn⟩

/-- **C10** `N = 0`: an empty slice gives two empty views, a non-empty one is refused by the assertion -/
theorem C10_body_chunks_zero (len i : Nat) :
    runViews false SeqBody.chunksFromSlice ⟨0, len, i⟩ = (if len = 0 then .views [⟨0, 0, false⟩, ⟨0, 0, false⟩] else .panic) ∧
    runViews true SeqBody.chunksFromSliceMut ⟨0, len, i⟩ = (if len = 0 then .views [⟨0, 0, true⟩, ⟨0, 0, true⟩] else .panic) :=
  ⟨chunksFromSlice_body_zero len i, chunksFromSliceMut_body_zero len i⟩

/-- **C10** `slice_from_chunks(_mut)`: the flat view is the whole storage of the `len` chunks, `len · N` elements -/
theorem C10_body_flat (n len i : Nat) :
    runViews false SeqBody.sliceFromChunks ⟨n, len, i⟩ = .views [⟨0, len * n, false⟩] ∧
    runViews true SeqBody.sliceFromChunksMut ⟨n, len, i⟩ = .views [⟨0, len * n, true⟩] :=
  sliceFromChunks_body n len i

example : runViews false SeqBody.chunksFromSlice ⟨3, 11, 0⟩ = .views [⟨0, 9, false⟩, ⟨9, 2, false⟩] := rfl
example : runViews true SeqBody.chunksFromSliceMut ⟨4, 3, 0⟩ = .views [⟨0, 0, true⟩, ⟨0, 3, true⟩] := rfl
-- `slice.as_mut_ptr()` taken twice, as in the pinned tree's `chunks_from_slice_mut`: the second reborrow ends the first view
-- (the defect found by Miri and repaired in /repo, KNOWN_FINDINGS.txt)
example : runViews true [.emptyIf (.eq .n (.lit 0)) (.eq .k (.lit 0)) 2 true,
    .ptrArg 0 true .k, .viewAt 0 0 (.lit 0) (.mul (.div .k .n) .n) true,
    .ptrArg 1 true .k, .viewAt 1 1 (.mul (.div .k .n) .n) (.sub .k (.mul (.div .k .n) .n)) true,
    .retViews [0, 1]] ⟨3, 11, 0⟩ = .ub := rfl
-- the remainder made from a pointer derived from the chunk view (same address, good for the chunks only)
example : runViews false [.emptyIf (.eq .n (.lit 0)) (.eq .k (.lit 0)) 2 false,
    .ptrArg 0 false .k, .viewAt 0 0 (.lit 0) (.mul (.div .k .n) .n) false,
    .ptrOfView 1 0 false, .viewAt 1 1 (.mul (.div .k .n) .n) (.sub .k (.mul (.div .k .n) .n)) false,
    .retViews [0, 1]] ⟨3, 11, 0⟩ = .ub := rfl
-- a remainder offset counted in bytes of an 8-byte element instead of elements leaves the slice
example : runViews false [.ptrArg 0 false .k, .viewAt 0 0 (.lit 0) (.mul (.div .k .n) .n) false,
    .ptrArg 1 false .k, .viewAt 1 1 (.mul (.mul (.div .k .n) .n) (.lit 8)) (.sub .k (.mul (.div .k .n) .n)) false,
    .retViews [0, 1]] ⟨3, 11, 0⟩ = .ub := rfl

end GA.Props.BodyViews

#print axioms GA.Props.BodyViews.C10_body_chunks_partition
#print axioms GA.Props.BodyViews.C10_body_chunks_zero
#print axioms GA.Props.BodyViews.C10_body_flat
