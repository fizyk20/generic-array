import GA.Model.Serde
import GA.Bridge.Serde
import GA.Lemmas.Own
/-!
# C17 — serde round-trips arrays as fixed-size tuples and rejects any other length
-/
namespace GA.Props.C17
open GA.Serde GA.Own GA.Gen

/-- **serialisation shape**: a tuple of exactly `N` elements in index order — no length prefix -/
theorem serialize_shape (a : List Id) :
    serialize a = [.tupleStart a.length] ++ a.map .elem ++ [.tupleEnd] := by
  simp [serialize, ga_bridge]

theorem step_elem (h0 he : Option Nat) (x : Id) (t : List Step) (j : Nat) :
    src.step ⟨h0, .elem x :: t, he, j⟩ = .yield [.poll j, .take j x] x ⟨h0, t, he, j + 1⟩ := rfl
theorem step_fail (h0 he : Option Nat) (t : List Step) (j : Nat) :
    src.step ⟨h0, .fail :: t, he, j⟩ = .panic [.poll j, .panic j] ⟨h0, t, he, j + 1⟩ := rfl
theorem step_none (h0 he : Option Nat) (t : List Step) (j : Nat) :
    src.step ⟨h0, .none :: t, he, j⟩ = .done [.poll j] ⟨h0, t, he, j + 1⟩ := rfl
theorem step_nil (h0 he : Option Nat) (j : Nat) :
    src.step ⟨h0, [], he, j⟩ = .done [.poll j] ⟨h0, [], he, j + 1⟩ := rfl

theorem src_yields (h0 he : Option Nat) (steps : List Step) (j : Nat) (items : List Id) (s : Serde.Script) :
    Yields src ⟨h0, steps, he, j⟩ items s ↔
      steps.take items.length = items.map .elem ∧ s = ⟨h0, steps.drop items.length, he, j + items.length⟩ := by
  exact yields_scripted src (fun l j => ⟨h0, l, he, j⟩) .elem (fun x t j => ⟨_, step_elem h0 he x t j⟩)
    (fun l j evs x s' h => by
      cases l with
      | nil => cases h
      | cons a t => cases a <;> cases h; exact ⟨t, rfl⟩) steps j items s

def hintAdmits (h : Option Nat) (n : Nat) : Prop := h = none ∨ h = some n

def noSurplus (he : Option Nat) (rest : List Step) : Prop :=
  he = some 0 ∨ probeRejects rest = false

theorem hintRejects_iff (h : Option Nat) (n : Nat) : hintRejects h n = false ↔ hintAdmits h n := by
  unfold hintRejects hintAdmits
  cases h with
  | none => simp
  | some k =>
    simp only [ga_bridge, reduceCtorEq, Option.some.injEq, false_or, decide_eq_false_iff_not, ne_eq]
    exact Decidable.not_not

theorem tailFull_ok (n : Nat) (tr : List Ev) (out : List Id) (s' : Serde.Script) (hl : out.length = n) (arr : List Id) :
    (tailFull n tr out s').2 = .ok arr ↔ arr = out ∧ noSurplus s'.hintEnd s'.steps := by
  unfold tailFull probes noSurplus
  -- the array is full (`hl`) and the flags are the regenerated ones: what remains is the decision on the probe
  simp only [ga_bridge, hl, decide_true, Bool.not_true, Bool.false_eq_true, if_false, Bool.true_and, if_true]
  by_cases hz : s'.hintEnd = some 0
  · -- `size_hint` says nothing is left: no probe, `Ok out`
    simp only [hz, decide_true, Bool.not_true, Bool.not_false, if_true, VRes.ok.injEq, true_or, and_true]
    exact eq_comm
  · -- otherwise the probe's answer decides between `Ok out` and `Err`
    simp only [hz, decide_false, Bool.not_false, Bool.not_true, Bool.false_eq_true, if_false, false_or]
    cases hp : probeRejects s'.steps
    · simp only [Bool.false_eq_true, if_false, VRes.ok.injEq, and_true]; exact eq_comm
    · simp only [if_true, reduceCtorEq, false_iff, not_and, Bool.true_eq_false, not_false_eq_true, implies_true]

/-- **Ok exactly for N elements**: accepted iff the up-front hint does not contradict `N`, exactly `N`
    elements are delivered, and then the source either reports "nothing left" by its size hint (the
    carve-out in the property) or answers the surplus probe with "nothing" -/
theorem ok_iff (n : Nat) (h0 he : Option Nat) (steps : List Step) (arr : List Id) :
    (visitSeq n ⟨h0, steps, he, 0⟩).2 = .ok arr ↔
      hintAdmits h0 n ∧ arr.length = n ∧ steps.take n = arr.map .elem ∧ noSurplus he (steps.drop n) := by
  unfold visitSeq
  simp only [ga_bridge]
  by_cases hr : hintRejects h0 n = true
  · have : ¬ hintAdmits h0 n := by
      intro ha; rw [(hintRejects_iff h0 n).mpr ha] at hr; cases hr
    simp [hr, this]
  · have ha : hintAdmits h0 n := (hintRejects_iff h0 n).mp (by simpa using hr)
    simp only [hr, Bool.false_eq_true, if_false, ha, true_and]
    -- the run the right-hand side describes is the one the fill loop makes
    have hrun : arr.length = n → steps.take n = arr.map .elem →
        (fillLoop true true src n ⟨h0, steps, he, 0⟩ []).2 = .full arr ⟨h0, steps.drop n, he, 0 + n⟩ :=
      fun hl ht => hl ▸ fillLoop_of_yields true ((src_yields ..).mpr ⟨by rw [hl]; exact ht, rfl⟩) []
    have hlen := fillLoop_len true src n ⟨h0, steps, he, 0⟩ []
    cases hf : fillLoop true true src n ⟨h0, steps, he, 0⟩ [] with
    | mk tr r =>
      rw [hf] at hrun hlen
      cases r with
      | panicked => exact ⟨fun h => (by cases h), fun ⟨hl, ht, _⟩ => by cases hrun hl ht⟩
      | short out s =>
        have hne : ¬ out.length = n := Nat.ne_of_lt (by simpa using hlen)
        simp only [tailShort, ga_bridge, hne, decide_false, Bool.false_eq_true, if_false]
        exact ⟨fun h => (by cases h), fun ⟨hl, ht, _⟩ => by cases hrun hl ht⟩
      | full out s =>
        have hon : out.length = n := by simpa using hlen
        obtain ⟨items, hl, hy, ho⟩ := yields_of_fillLoop (congrArg Prod.snd hf)
        obtain ⟨ht, hs⟩ := (src_yields ..).mp hy
        rw [hl] at ht hs
        subst ho hs
        simp only [tailFull_ok n _ _ _ hon]
        constructor
        · rintro ⟨rfl, hn⟩; exact ⟨hl, ht, hn⟩
        · rintro ⟨hl', ht', hn⟩; cases hrun hl' ht'; exact ⟨rfl, hn⟩

/-- no partially filled array is ever returned -/
theorem no_partial (n : Nat) (h0 he : Option Nat) (steps : List Step) (arr : List Id)
    (h : (visitSeq n ⟨h0, steps, he, 0⟩).2 = .ok arr) : arr.length = n :=
  ((ok_iff n h0 he steps arr).mp h).2.1

theorem elemsOf_serialize (a : List Id) : elemsOf (serialize a) = a := by
  rw [serialize_shape]
  have h : ∀ l : List Id, elemsOf (l.map Tok.elem ++ [Tok.tupleEnd]) = l := by
    intro l; induction l with
    | nil => rfl
    | cons x t ih => simp [elemsOf, ih]
  simp only [List.cons_append, List.nil_append, elemsOf]
  exact h a

/-- **round trip**: deserialising what was serialised, through any faithful format (with or without
    size hints), gives the array back -/
theorem roundtrip (a : List Id) (hinted : Bool) :
    (visitSeq (Serde.deTupleLen a.length) (replay (serialize a) hinted)).2 = .ok a := by
  rw [Bridge.Serde.deTupleLen_eq]
  unfold replay
  rw [elemsOf_serialize, ok_iff]
  refine ⟨?_, rfl, ?_, ?_⟩
  · cases hinted <;> simp [hintAdmits]
  · exact List.take_of_length_le (by simp)
  · right
    rw [List.drop_eq_nil_of_le (by simp)]
    rfl

theorem src_contract : Contract src (fun _ => []) (fun _ => True) :=
  .of_step (fun s _ => by
    rcases s with ⟨h0, steps, he, k⟩
    cases steps with
    | nil => exact ⟨⟨.refl _, rfl⟩, trivial⟩
    | cons a t => cases a <;> exact ⟨⟨.refl _, rfl⟩, trivial⟩)
    (fun _ => rfl)

theorem probeEv_quiet (steps : List Step) (k : Nat) (a : List Id) :
    Moves (probeEv steps k) a a ∧ gives (probeEv steps k) = [] := by
  unfold probeEv; split <;> exact ⟨⟨by simp [gives, drops, takes], rfl⟩, rfl⟩

theorem visitSeq_moves (n : Nat) (s : Serde.Script) :
    let r := visitSeq n s
    Moves r.1 [] r.2.ids ∧ gives r.1 = [] := by
  have hm := (fillLoop_moves src_contract rfl n s trivial []).1
  have hlen := fillLoop_len true src n s []
  have hg := fillLoop_trace (S := src) (P := fun _ t => gives t = []) rfl
    (fun _ _ a b ha hb => by rw [gives_append, ha, hb]; rfl) (fun _ _ _ _ h => h)
    (fun s => by simp only [src]; split <;> rfl) (fun _ => rfl) gives_map_drop n s []
  unfold visitSeq
  simp only [ga_bridge]
  split
  · exact ⟨Moves.refl [], rfl⟩
  · cases hf : fillLoop true true src n s [] with
    | mk tr r =>
      rw [hf] at hm hlen hg
      -- `hm : Moves tr [] (read so far)`, `hg : gives tr = []`; each exit appends its own teardown
      cases r with
      | panicked => exact ⟨hm, hg⟩
      | short out s' =>
        have hne : ¬ out.length = n := Nat.ne_of_lt (by simpa using hlen)
        simp only [tailShort, ga_bridge, hne, decide_false, Bool.false_eq_true, if_false]
        have hm : Moves tr [] out := by simpa [FillRes.ids, FillRes.rest] using hm
        exact ⟨hm.append (moves_drop out), by rw [gives_append, hg, gives_map_drop]; rfl⟩
      | full out s' =>
        have hon : out.length = n := by simpa using hlen
        have hm : Moves tr [] out := by simpa [FillRes.ids, FillRes.rest] using hm
        obtain ⟨hq, hqg⟩ := probeEv_quiet s'.steps s'.k out
        simp only [tailFull, ga_bridge, hon, decide_true, Bool.not_true, Bool.false_eq_true, if_false, if_true]
        split
        · exact ⟨hm, hg⟩
        · split
          · exact ⟨hm.append hq |>.append (moves_drop out),
              by rw [gives_append, gives_append, hg, hqg, gives_map_drop]; rfl⟩
          · exact ⟨hm.append hq, by rw [gives_append, hg, hqg]; rfl⟩

/-- **error paths drop what was read exactly once**: on every path (accepted, too short, too long,
    hint mismatch, element error at any index) every element that was read is in the returned array
    or dropped exactly once, and no never-written slot is touched -/
theorem read_ledger (n : Nat) (s : Serde.Script) :
    (drops (visitSeq n s).1 ++ (visitSeq n s).2.ids).Perm (takes (visitSeq n s).1) ∧
    uninitDrops (visitSeq n s).1 = 0 := by
  obtain ⟨⟨hp, hu⟩, hg⟩ := visitSeq_moves n s
  rw [hg] at hp
  exact ⟨hp, hu⟩

example : (visitSeq 2 ⟨none, [.elem 7, .elem 8], none, 0⟩).2 = .ok [7, 8] := by rfl
example : (visitSeq 2 ⟨none, [.elem 7], none, 0⟩).2 = .err := by decide
example : (visitSeq 2 ⟨none, [.elem 7, .elem 8, .elem 9], none, 0⟩).2 = .err := by decide
example : (visitSeq 2 ⟨some 3, [.elem 7, .elem 8, .elem 9], none, 0⟩).2 = .err := by decide
example : (visitSeq 2 ⟨none, [.elem 7, .fail], none, 0⟩) = ([.poll 0, .take 0 7, .poll 1, .panic 1, .drop 7], .err) := by rfl
example : (visitSeq 1 ⟨none, [.elem 7, .fail], none, 0⟩) = ([.poll 0, .take 0 7, .poll 1, .panic 1, .drop 7], .err) := by rfl
example : (visitSeq 2 ⟨some 2, [.elem 7, .elem 8, .elem 9], some 0, 0⟩).2 = .ok [7, 8] := by rfl

end GA.Props.C17

#print axioms GA.Props.C17.serialize_shape
#print axioms GA.Props.C17.ok_iff
#print axioms GA.Props.C17.no_partial
#print axioms GA.Props.C17.roundtrip
#print axioms GA.Props.C17.read_ledger
