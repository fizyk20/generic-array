import GA.Bridge.BodyBoxed
import GA.Props.C16
/-!
C16 (and C08, C15) on the *interpreted* bodies of `<Box<GenericArray<T, N>> as GenericSequence<T>>::generate`
and `Drop for DeallocOnDrop` (src/impl_alloc.rs): the allocator discipline for every length, element
size and alignment, every generator (returning or panicking at any call) and either allocator outcome.
-/
namespace GA.Props.BodyBoxed
open GA.Body GA.Own GA.Bridge.BodyBoxed GA.Bridge.BodyCollect

def boxCtx (n esz ealign : Nat) (f : Nat → Option Id) (allocOk : Bool) : Ctx :=
  { n := n, bad := none, fpan := fun _ => false, cl := f,
    ext := { esz := esz, ealign := ealign, allocOk := allocOk } }

def bst0 : St := ⟨⟨[], 0, 0, 0, []⟩, ⟨[], 0, 0, 0, []⟩, false, 0, false, 0, false, {}⟩

def boxRun (n esz ealign : Nat) (f : Nat → Option Id) (allocOk : Bool) : List Ev × R × St :=
  runFnB (boxCtx n esz ealign f allocOk) Gen.Body.intrusiveDrop.body Gen.Body.deallocGuardDrop.body
    Gen.Body.boxedGenerate [] bst0

/-- allocator events over the whole life of the result: those of the body, then — when a box was
    returned — the release `Box`'s own destructor performs (non-zero-size layouts only; that part is
    `alloc`'s, not this crate's) -/
def lifeTrace (n esz ealign : Nat) (r : List Ev × R × St) : List GA.Heap.AEv :=
  r.2.2.ext.atrace.map toH ++
    (match r.2.1 with
     | .ret (.boxed _ _) => if n * esz = 0 then [] else [.dealloc 1 (n * esz) ealign]
     | _ => [])

theorem life_eq (n : Nat) (hn : n < word) (esz ealign : Nat) (f : Nat → Option Id) (allocOk : Bool) :
    lifeTrace n esz ealign (boxRun n esz ealign f allocOk) = (GA.Heap.boxedGenerate esz ealign n f allocOk).atrace ∧
    ((∃ blk out, (boxRun n esz ealign f allocOk).2.1 = .ret (.boxed blk out)) ∨ (boxRun n esz ealign f allocOk).2.1 = .panicked) := by
  have h := boxedGenerate_body (boxCtx n esz ealign f allocOk) hn rfl ⟨[], 0, 0, 0, []⟩
  unfold boxRun lifeTrace bst0
  rcases hr : runFnB (boxCtx n esz ealign f allocOk) Gen.Body.intrusiveDrop.body Gen.Body.deallocGuardDrop.body
    Gen.Body.boxedGenerate [] ⟨⟨[], 0, 0, 0, []⟩, ⟨[], 0, 0, 0, []⟩, false, 0, false, 0, false, {}⟩ with ⟨tr, res, st⟩
  simp only [hr] at h
  -- `h` is `False` unless the run ended in a box or a panic, and else has the model's allocator events last
  cases res with
  | ret v =>
    cases v with
    | boxed blk out => exact ⟨h.2.2.2.symm, .inl ⟨_, _, rfl⟩⟩
    | _ => exact h.elim
  | panicked => exact ⟨(List.append_nil _).trans h.2.2.symm, .inr rfl⟩
  | ub => exact h.elim

/-- **C16, only non-zero-size requests** — on the interpreted body -/
theorem C16_body_requests_nonzero (n : Nat) (hn : n < word) (esz ealign : Nat) (f : Nat → Option Id) (allocOk : Bool) :
    GA.Heap.requestsNonzero (lifeTrace n esz ealign (boxRun n esz ealign f allocOk)) = true := by
  rw [(life_eq n hn esz ealign f allocOk).1]; exact GA.Props.C16.requests_nonzero ..

/-- **C16, every release names a live block with its size and alignment** — on the interpreted body
    and the interpreted `Drop for DeallocOnDrop` -/
theorem C16_body_release_matches (n : Nat) (hn : n < word) (esz ealign : Nat) (f : Nat → Option Id) (allocOk : Bool) :
    GA.Heap.releasesMatch (lifeTrace n esz ealign (boxRun n esz ealign f allocOk)) = true := by
  rw [(life_eq n hn esz ealign f allocOk).1]; exact GA.Props.C16.release_matches ..

/-- **C16, nothing stays allocated** — including when the generator panics at any call -/
theorem C16_body_no_leak (n : Nat) (hn : n < word) (esz ealign : Nat) (f : Nat → Option Id) (allocOk : Bool) :
    GA.Heap.liveAfter (lifeTrace n esz ealign (boxRun n esz ealign f allocOk)) = [] := by
  rw [(life_eq n hn esz ealign f allocOk).1]; exact GA.Props.C16.no_leak ..

/-- **C16, allocation failure**: the interpreted body ends through `handle_alloc_error`, calls the
    generator never, and never forms a reference to the null block -/
theorem C16_body_alloc_failure (n : Nat) (esz ealign : Nat) (f : Nat → Option Id) (hz : n * esz ≠ 0) :
    let r := boxRun n esz ealign f false
    r.2.1 = .panicked ∧ r.2.2.ext.aborted = true ∧ r.1 = [] ∧
    r.2.2.ext.atrace = [.allocFail (n * esz) ealign, .handleAllocError] := by
  have h := boxedGenerate_allocFail (boxCtx n esz ealign f false) hz rfl ⟨[], 0, 0, 0, []⟩
  simp only [boxCtx, Prod.mk.injEq] at h
  exact ⟨h.2.1, h.2.2.2, h.1, h.2.2.1⟩

/-- **C08 for boxed `generate`** — on the interpreted body: with a generator that returns at every
    call and an allocator that succeeds (or is not needed), the returned box holds `g 0 … g (N-1)`
    and the generator was called exactly once per index, in index order. -/
theorem C08_body_boxed_generate (n : Nat) (hn : n < word) (esz ealign : Nat) (g : Nat → Id) :
    let r := boxRun n esz ealign (fun i => some (g i)) true
    r.2.1 = .ret (.boxed (if n * esz = 0 then none else some 1) ((List.range n).map g)) ∧
    GA.Func.rets r.1 = (List.range n).map (fun i => (i, g i)) := by
  have h := boxedGenerate_run (boxCtx n esz ealign (fun i => some (g i)) true) hn rfl ⟨[], 0, 0, 0, []⟩
  obtain ⟨hok, hout, hr⟩ := genSpec_some g n
  simp only [boxCtx, hok, hout, if_true] at h
  unfold boxRun bst0
  by_cases hz : n * esz = 0
  · simp only [hz, if_true, Prod.mk.injEq] at h ⊢
    exact ⟨h.2.1, h.1 ▸ hr⟩
  · simp only [hz, if_false, Prod.mk.injEq] at h ⊢
    exact ⟨h.2.1, h.1 ▸ hr⟩

/-- **C15, built in place**: with a non-zero-size layout and a working allocator the interpreted
    body performs exactly one allocator request, of the whole array's layout, and the box it returns
    *is* that block — the builder was placed over it (`IntrusiveArrayBuilder::new(&mut *ptr)`) and
    every generated element was written straight into its slot; nothing is built elsewhere and moved. -/
theorem C15_body_built_in_block (n : Nat) (hn : n < word) (esz ealign : Nat) (g : Nat → Id) (hz : n * esz ≠ 0) :
    let r := boxRun n esz ealign (fun i => some (g i)) true
    r.2.1 = .ret (.boxed (some 1) ((List.range n).map g)) ∧ r.2.2.ext.atrace = [.alloc 1 (n * esz) ealign] := by
  have h := boxedGenerate_run (boxCtx n esz ealign (fun i => some (g i)) true) hn rfl ⟨[], 0, 0, 0, []⟩
  obtain ⟨hok, hout, -⟩ := genSpec_some g n
  simp only [boxCtx, hok, hout, hz, if_true, if_false, Prod.mk.injEq] at h
  exact ⟨h.2.1, h.2.2.1⟩

example : (boxRun 2 4 4 (fun i => some (10 + i)) true).2.1 = .ret (.boxed (some 1) [10, 11]) ∧
    (boxRun 2 4 4 (fun i => some (10 + i)) true).2.2.ext.atrace = [.alloc 1 8 4] := by decide
-- a zero-sized element type: no allocator traffic at all
example : (boxRun 3 0 1 (fun i => some i) true).2.2.ext.atrace = [] := by decide
-- the generator panics at the second call: the first element is dropped, then the block released
example : (boxRun 3 4 4 (fun i => if i = 1 then none else some (10 + i)) true).1 =
      [.take 0 10, .panic 1, .drop 10] ∧
    (boxRun 3 4 4 (fun i => if i = 1 then none else some (10 + i)) true).2.2.ext.atrace =
      [.alloc 1 12 4, .dealloc 1 12 4] := by decide
example : (boxRun 3 4 4 (fun i => some i) false).2.2.ext.atrace = [.allocFail 12 4, .handleAllocError] := by decide

end GA.Props.BodyBoxed

#print axioms GA.Props.BodyBoxed.C16_body_requests_nonzero
#print axioms GA.Props.BodyBoxed.C16_body_release_matches
#print axioms GA.Props.BodyBoxed.C16_body_no_leak
#print axioms GA.Props.BodyBoxed.C16_body_alloc_failure
#print axioms GA.Props.BodyBoxed.C08_body_boxed_generate
#print axioms GA.Props.BodyBoxed.C15_body_built_in_block
