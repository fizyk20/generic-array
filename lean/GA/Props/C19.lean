import GA.Model.Fill
import GA.Bridge.Fill
import GA.Bridge.Layout
import GA.Props.C01
import GA.Props.C08
/-!
# C19 — zeroize and const-default reach every one of the N elements
-/
namespace GA.Props.C19
open GA.Fill GA.Layout GA.Gen GA.Bridge.Fill

variable {α : Type}

theorem fieldMem_of_ok (d : α) (k : Nat) (fk : FieldKind) (init : Option InitKind) (h : initOk fk init = true) :
    fieldMem d (some (List.replicate k d)) fk init = some (List.replicate (fieldWeight k 1 fk) d) := by
  cases fk <;> cases init with
  | none => cases h
  | some i => cases i <;> first | rfl | cases h

theorem appendMem_some (a m : List α) : appendMem (some a) (some m) = some (a ++ m) := rfl

theorem foldl_ok (d : α) (k : Nat) (inits : List (String × InitKind)) (l : List (FieldKind × String)) (m : Nat)
    (hok : l.all (fun fn => initOk fn.1 (inits.lookup fn.2)) = true) :
    l.foldl (fun acc fn => appendMem acc (fieldMem d (some (List.replicate k d)) fn.1 (inits.lookup fn.2)))
        (some (List.replicate m d))
      = some (List.replicate (m + ((l.map (·.1)).map (fieldWeight k 1)).sum) d) := by
  induction l generalizing m with
  | nil => simp
  | cons fn l ih =>
    simp only [List.all_cons, Bool.and_eq_true] at hok
    simp only [List.foldl_cons, fieldMem_of_ok d k fn.1 _ hok.1, appendMem_some, List.replicate_append_replicate]
    rw [ih _ hok.2]
    simp only [List.map_cons, List.sum_cons, Nat.add_assoc]

/-- a struct literal that initialises every declared field with its type's default holds
    `k·(children) + (element fields)` copies of the element default and nothing else -/
theorem structMem_ok (d : α) (k : Nat) (fields : List FieldKind) (names : List String)
    (inits : List (String × InitKind)) (h : literalOk fields names inits = true) :
    structMem d (some (List.replicate k d)) fields names inits
      = some (List.replicate (k * fields.count .child + fields.count .elem) d) := by
  unfold literalOk at h
  simp only [Bool.and_eq_true, decide_eq_true_eq] at h
  unfold structMem
  have := foldl_ok d k inits (fields.zip names) 0 h.2
  simp only [List.replicate_zero] at this
  rw [this, List.map_fst_zip (by omega), sum_fieldWeight, Nat.zero_add, Nat.mul_one, Nat.mul_comm]

theorem storageDefault_all (d : α) (D : Digits) : storageDefault d D = some (List.replicate D.val d) := by
  induction D with
  | term => rfl
  | b0 h ih =>
    simp only [storageDefault, ih, Bridge.Layout.b0Node_eq, nodeDefault]
    rw [structMem_ok d _ _ _ _ even_literal_ok, Bridge.Layout.even_children, Bridge.Layout.even_elems, Nat.mul_comm]
    rfl
  | b1 h ih =>
    simp only [storageDefault, ih, Bridge.Layout.b1Node_eq, nodeDefault]
    rw [structMem_ok d _ _ _ _ odd_literal_ok, Bridge.Layout.odd_children, Bridge.Layout.odd_elems, Nat.mul_comm]
    rfl

/-- the memory of `GenericArray::<T, N>::DEFAULT` is exactly `N` slots, each the element default:
    no slot skipped, none counted twice, for every shape of the recursive storage -/
theorem constDefaultMem_all (d : α) (D : Digits) : constDefaultMem d D = some (List.replicate D.val d) := by
  unfold constDefaultMem
  simp only [ga_bridge, Bridge.Layout.wrapperSingle_eq, Bool.and_self, if_true, storageDefault_all]
  rw [structMem_ok d _ _ _ _ wrapper_literal_ok]
  simp

/-- **const-default**: for every length `n`, the array seen through the slice view is `n` copies of
    the element's constant default -/
theorem const_default_all (d : α) (n : Nat) : constDefault d n = some (List.replicate n d) := by
  unfold constDefault sliceView
  simp only [constDefaultMem_all, C01.ofNat_val, Option.bind_some, ga_bridge, if_true]
  simp

/-- … and equals `Default::default()` (= `generate(|_| T::default())`, C08) when the element's two
    defaults coincide -/
theorem const_default_eq_default (d : GA.Own.Id) (n : Nat) :
    (GA.Ops.defaultOp (fun _ => some d) n).2 = .ok ((constDefault d n).getD []) := by
  rw [const_default_all, C08.default_spec (fun _ => d) n]
  simp only [Option.getD_some]
  rw [List.map_const', List.length_range]

/-- **zeroize**: for every length and prior content, every element is replaced by its own
    zeroized value -/
theorem zeroize_all (z : α → α) (n : Nat) (a : List α) (h : a.length = n) : zeroize z n a = some (a.map z) := by
  unfold zeroize
  simp only [ga_bridge, Bool.and_self, if_true, ← h, List.take_length, List.drop_length, List.append_nil]

theorem zeroize_each (z : α → α) (n : Nat) (a : List α) (h : a.length = n) :
    ∃ r, zeroize z n a = some r ∧ r.length = n ∧ ∀ i (hi : i < n), r[i]? = (a[i]?).map z := by
  refine ⟨a.map z, zeroize_all z n a h, by simp [h], ?_⟩
  intro i _
  simp

theorem zeroize_idempotent (z : α → α) (hz : ∀ x, z (z x) = z x) (n : Nat) (a : List α) (h : a.length = n) :
    (zeroize z n a).bind (zeroize z n) = zeroize z n a := by
  rw [zeroize_all z n a h, Option.bind_some, zeroize_all z n _ (by simp [h])]
  simp [hz]

example : constDefault 7 5 = some [7, 7, 7, 7, 7] := const_default_all 7 5
example : constDefaultMem 7 (.b1 (.b0 (.b1 .term))) = some [7, 7, 7, 7, 7] := by rfl
example : zeroize (fun (x : Nat × Nat) => (x.1, 0)) 3 [(1, 9), (2, 8), (3, 7)] = some [(1, 0), (2, 0), (3, 0)] := by rfl

end GA.Props.C19

#print axioms GA.Props.C19.structMem_ok
#print axioms GA.Props.C19.storageDefault_all
#print axioms GA.Props.C19.constDefaultMem_all
#print axioms GA.Props.C19.const_default_all
#print axioms GA.Props.C19.const_default_eq_default
#print axioms GA.Props.C19.zeroize_all
#print axioms GA.Props.C19.zeroize_each
#print axioms GA.Props.C19.zeroize_idempotent
