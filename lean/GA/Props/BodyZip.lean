import GA.Bridge.BodyZip
import GA.Props.C04
import GA.Props.C08
/-!
C04 / C08 on the *interpreted* body of `<GenericArray<T, N> as GenericSequence<T>>::inverted_zip`
(src/lib.rs) — what `a.zip(b, f)` runs for two arrays by value; what is inlined into it:
`GA.Bridge.BodyZip` — for both `needs_drop` branches, with the regenerated destructors run in
unwinding order.
-/
namespace GA.Props.BodyZip
open GA.Body GA.Own GA.Bridge.BodyCollect GA.Bridge.BodyZip

def zipCtx (n : Nat) (ndSelf ndOther : Bool) (f : Nat → Option Id) : Ctx :=
  { n := n, bad := none, fpan := fun _ => false, cl := f, ext := { ndSelf := ndSelf, ndOther := ndOther } }

/-- `ys` is the receiver of `inverted_zip` (`self`), `xs` its `lhs` argument -/
def zst0 (xs ys : List Id) : St :=
  ⟨⟨ys, 0, 0, 0, []⟩, ⟨[], 0, 0, 0, []⟩, false, 0, false, 0, false, { other := ⟨xs, 0, 0, 0, []⟩ }⟩

def zipRun (ndA ndB : Bool) (f : Nat → Option Id) (xs ys : List Id) : List Ev × R × St :=
  runFn3 (zipCtx ys.length ndB ndA f) Gen.Body.consumerDrop.body Gen.Body.intrusiveDrop.body Gen.Body.gaIzip [] (zst0 xs ys)

theorem zip_run (ndA ndB : Bool) (f : Nat → Option Id) (xs ys : List Id) (hl : xs.length = ys.length) (hw : ys.length < word) :
    let r := zipRun ndA ndB f xs ys
    (r.1, resOf r.2.1) = ((GA.Ops.zipOp .owned .owned ndA ndB f xs ys).1, some (GA.Ops.zipOp .owned .owned ndA ndB f xs ys).2) :=
  gaIzip_body xs ys hl hw (zipCtx ys.length ndB ndA f) rfl rfl 0 0

/-- **C08: `zip` calls the function on `(a[i], b[i])` for `i = 0, 1, …` once each, in order, and
    stores result `i` at position `i`** — on the interpreted body, both `needs_drop` branches -/
theorem C08_body_zip (ndA ndB : Bool) (g : Nat → Id) (xs ys : List Id) (hl : xs.length = ys.length) (hw : ys.length < word) :
    let r := zipRun ndA ndB (fun i => some (g i)) xs ys
    resOf r.2.1 = some (.ok ((List.range xs.length).map g)) ∧
    GA.Func.args r.1 = GA.Func.enumFrom2 0 xs ys ∧
    GA.Func.rets r.1 = (List.range xs.length).map (fun i => (i, g i)) := by
  obtain ⟨h1, h2⟩ := Prod.mk.inj (zip_run ndA ndB (fun i => some (g i)) xs ys hl hw)
  obtain ⟨a, b, c⟩ := GA.Props.C08.zip_spec .owned .owned ndA ndB g xs ys hl
  exact ⟨h2.trans (congrArg some a), h1 ▸ b, h1 ▸ c⟩

/-- **C04: whichever call of the zipping function panics** (element types that need drop), every
    element of both inputs is handed to it or dropped, every result is in the returned array or
    dropped — exactly once; no never-written slot is dropped or returned -/
theorem C04_body_zip (f : Nat → Option Id) (xs ys : List Id) (hl : xs.length = ys.length) (hw : ys.length < word) :
    let r := zipRun true true f xs ys
    ∃ res, resOf r.2.1 = some res ∧ (gives r.1 ++ drops r.1 ++ res.ids).Perm (ys ++ xs ++ takes r.1) ∧ uninitDrops r.1 = 0 :=
  ledger_of_run (zip_run true true f xs ys hl hw) (GA.Props.C04.zip_ledger .owned .owned f xs ys hl)

example : resOf (zipRun true true (fun i => some (100 + i)) [1, 2, 3] [11, 12, 13]).2.1 = some (.ok [100, 101, 102]) := by decide
-- the function panics on its second call: the first result is dropped by the builder, then what the
-- right consumer still owns, then what the left one still owns; the pair in flight was given away
example : (zipRun true true (fun i => if i = 1 then none else some (100 + i)) [1, 2, 3] [11, 12, 13]).1 =
    [.give 0 1, .give 0 11, .take 0 100, .give 1 2, .give 1 12, .panic 1, .drop 100, .drop 13, .drop 3] := by decide
-- the `ManuallyDrop` branch (no element needs drop): a panic abandons the rest, nothing is dropped twice
example : (zipRun false false (fun i => if i = 1 then none else some (100 + i)) [1, 2, 3] [11, 12, 13]).1 =
    [.give 0 1, .give 0 11, .take 0 100, .give 1 2, .give 1 12, .panic 1, .drop 100] := by decide

end GA.Props.BodyZip

#print axioms GA.Bridge.BodyZip.gaIzip_body
#print axioms GA.Props.BodyZip.C08_body_zip
#print axioms GA.Props.BodyZip.C04_body_zip
