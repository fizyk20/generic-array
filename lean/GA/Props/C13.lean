import GA.Model.Cmp
import GA.Bridge.Impls
import GA.Bridge.Mem
/-!
# C13 — comparison, hashing and Debug agree with the slice of the same elements
-/
namespace GA.Props.C13
open GA.Cmp GA.Gen

variable {α : Type}

/-- the operations of the slice type `[T]` itself -/
def sliceOps (E : ElemOps α) : ElemOps (List α) where
  eq same a b := sliceEq E same a b
  pcmp same a b := slicePcmp E same a b
  cmp same a b := sliceCmp E same a b
  hash a := sliceHash E a
  dbg fl a := sliceDbg E fl a

/-- all five at once: a `GenericArray<T, N>` has the operations of `[T]` -/
theorem arrayOps_eq_sliceOps (E : ElemOps α) : arrayOps E = sliceOps E := by
  simp only [arrayOps, sliceOps, ga_bridge]

/-- `a == b` is the slices' `==` — whether or not the operands are the same object -/
theorem eq_agrees (E : ElemOps α) (same : Bool) (a b : List α) :
    (arrayOps E).eq same a b = sliceEq E same a b := by
  rw [arrayOps_eq_sliceOps]; rfl

/-- `partial_cmp` (hence `<`, `<=`, `>`, `>=`, which `GenericArray` does not override) is the slices' -/
theorem partial_cmp_agrees (E : ElemOps α) (same : Bool) (a b : List α) :
    (arrayOps E).pcmp same a b = slicePcmp E same a b := by
  rw [arrayOps_eq_sliceOps]; rfl

theorem cmp_agrees (E : ElemOps α) (same : Bool) (a b : List α) :
    (arrayOps E).cmp same a b = sliceCmp E same a b := by
  rw [arrayOps_eq_sliceOps]; rfl

/-- the hasher receives exactly what hashing the slice feeds it: the length prefix, then the elements -/
theorem hash_agrees (E : ElemOps α) (a : List α) :
    (arrayOps E).hash a = .len a.length :: a.flatMap E.hash := by
  rw [arrayOps_eq_sliceOps]; rfl

/-- Debug output under any formatter options is the slice's under the same options -/
theorem debug_agrees (E : ElemOps α) (fl : Flags) (a : List α) :
    (arrayOps E).dbg fl a = sliceDbg E fl a := by
  rw [arrayOps_eq_sliceOps]; rfl

/-- … at every nesting depth: arrays of arrays compare, hash and print like slices of slices -/
theorem nested_agrees (E : ElemOps α) : arrayOps (arrayOps E) = sliceOps (sliceOps E) := by
  rw [arrayOps_eq_sliceOps E, arrayOps_eq_sliceOps]

/-! ### what "the slices' result" is: lexicographic, first non-equal comparison decides -/

theorem pcmp_incomparable_head (E : ElemOps α) (s : Bool) (x y : α) (a b : List α)
    (h : E.pcmp s x y = none) : (arrayOps E).pcmp s (x :: a) (y :: b) = none := by
  rw [partial_cmp_agrees]; simp only [slicePcmp, h]

theorem pcmp_lexicographic (E : ElemOps α) (s : Bool) (p a b : List α) (x y : α)
    (hp : ∀ z ∈ p, E.pcmp s z z = some .eq) (hxy : E.pcmp s x y ≠ some .eq) :
    (arrayOps E).pcmp s (p ++ x :: a) (p ++ y :: b) = E.pcmp s x y := by
  rw [partial_cmp_agrees]
  induction p with
  | nil =>
    simp only [List.nil_append, slicePcmp]
  | cons z p ih =>
    have hz := hp z (by simp)
    simp only [List.cons_append, slicePcmp, hz]
    exact ih (fun w hw => hp w (by simp [hw]))

/-- an array with an irreflexive element (NaN) is not equal to itself, exactly like its slice -/
theorem eq_irreflexive_elem (E : ElemOps α) (s : Bool) (p a : List α) (x : α)
    (hx : E.eq s x x = false) : (arrayOps E).eq s (p ++ x :: a) (p ++ x :: a) = false := by
  rw [eq_agrees]
  induction p with
  | nil => simp [sliceEq, hx]
  | cons z p ih => simp [sliceEq, ih]

theorem eq_length (E : ElemOps α) (s : Bool) (a b : List α) (h : sliceEq E s a b = true) : a.length = b.length := by
  induction a generalizing b with
  | nil => cases b <;> simp_all [sliceEq]
  | cons x a ih =>
    cases b with
    | nil => simp [sliceEq] at h
    | cons y b => simp only [sliceEq, Bool.and_eq_true] at h; simp [ih b h.2]

/-- the `Hash`/`Eq` law lifts from the elements to arrays: equal arrays feed equal streams -/
theorem hash_respects_eq (E : ElemOps α) (s : Bool) (hE : ∀ x y, E.eq s x y = true → E.hash x = E.hash y)
    (a b : List α) (h : (arrayOps E).eq s a b = true) : (arrayOps E).hash a = (arrayOps E).hash b := by
  rw [eq_agrees] at h
  rw [hash_agrees, hash_agrees, eq_length E s a b h]
  congr 1
  induction a generalizing b with
  | nil => cases b <;> simp_all [sliceEq]
  | cons x a ih =>
    cases b with
    | nil => simp [sliceEq] at h
    | cons y b =>
      simp only [sliceEq, Bool.and_eq_true] at h
      simp only [List.flatMap_cons, hE x y h.1, ih b h.2]

/-- the same lookup in a map keyed by the slices themselves -/
def sliceMapGet (E : ElemOps α) (keys : List (List α)) (q : List α) : Option Nat :=
  keys.findIdx? fun k => decide (sliceHash E k = sliceHash E q) && sliceEq E false k q

/-- a `HashMap` keyed by arrays, queried with a `&[T]`, answers exactly as a map keyed by the slices -/
theorem hashmap_lookup_by_slice (E : ElemOps α) (keys : List (List α)) (q : List α) :
    hashMapGet E keys q = sliceMapGet E keys q := by
  unfold hashMapGet sliceMapGet borrowView
  simp only [arrayOps, ga_bridge, if_true]

theorem btree_lookup_by_slice (E : ElemOps α) (keys : List (List α)) (q : List α) :
    btreeGet E keys q = keys.findIdx? (fun k => sliceCmp E false k q == .eq) := by
  unfold btreeGet borrowView
  simp only [ga_bridge, if_true]

theorem sliceEq_refl (E : ElemOps α) (k : List α) (hr : ∀ x ∈ k, E.eq false x x = true) : sliceEq E false k k = true := by
  induction k with
  | nil => rfl
  | cons x k ih => simp [sliceEq, hr x (by simp), ih (fun y hy => hr y (by simp [hy]))]

/-- a stored key with reflexive elements is found through its borrowed form, at an entry equal to it -/
theorem hashmap_finds_stored (E : ElemOps α) (keys : List (List α)) (k : List α) (hk : k ∈ keys)
    (hr : ∀ x ∈ k, E.eq false x x = true) :
    ∃ i, hashMapGet E keys k = some i ∧ ∃ h : i < keys.length, sliceEq E false keys[i] k = true := by
  rw [hashmap_lookup_by_slice]
  have hs : (sliceMapGet E keys k).isSome := by
    rw [sliceMapGet, List.findIdx?_isSome, List.any_eq_true]
    exact ⟨k, hk, by simp [sliceEq_refl E k hr]⟩
  obtain ⟨i, hi⟩ := Option.isSome_iff_exists.mp hs
  obtain ⟨hlt, hp, _⟩ := List.findIdx?_eq_some_iff_getElem.mp hi
  exact ⟨i, hi, hlt, (Bool.and_eq_true _ _ ▸ hp).2⟩

def f (q : Option Int) : LeafV := ⟨.f64 q, "", ""⟩
def i (v : Int) : LeafV := ⟨.i32 v, toString v, toString v⟩
example : (arrayOps leafOps).eq true [f (some 4), f none] [f (some 4), f none] = false := by decide
example : (arrayOps leafOps).pcmp true [f (some 4), f none] [f (some 4), f none] = none := by decide
example : (arrayOps leafOps).pcmp false [f (some 4), f none] [f (some 8), f none] = some .lt := by decide
example : (arrayOps leafOps).cmp false [i 1, i 2] [i 1, i 3] = .lt := by decide
example : (arrayOps leafOps).hash [i 1, i (-1)] =
    [.len 2, .byte 1, .byte 0, .byte 0, .byte 0, .byte 255, .byte 255, .byte 255, .byte 255] := by rfl
example : (arrayOps (arrayOps leafOps)).hash [[i 1], [i 2]] =
    [.len 2, .len 1, .byte 1, .byte 0, .byte 0, .byte 0, .len 1, .byte 2, .byte 0, .byte 0, .byte 0] := by rfl
example : hashMapGet leafOps [[i 1, i 2], [i 3, i 4]] [i 3, i 4] = some 1 := by decide

end GA.Props.C13

#print axioms GA.Props.C13.arrayOps_eq_sliceOps
#print axioms GA.Props.C13.nested_agrees
#print axioms GA.Props.C13.eq_agrees
#print axioms GA.Props.C13.partial_cmp_agrees
#print axioms GA.Props.C13.cmp_agrees
#print axioms GA.Props.C13.hash_agrees
#print axioms GA.Props.C13.debug_agrees
#print axioms GA.Props.C13.pcmp_lexicographic
#print axioms GA.Props.C13.eq_irreflexive_elem
#print axioms GA.Props.C13.hash_respects_eq
#print axioms GA.Props.C13.hashmap_lookup_by_slice
#print axioms GA.Props.C13.btree_lookup_by_slice
#print axioms GA.Props.C13.hashmap_finds_stored
