import GA.Model.ArrMac
import GA.Bridge.Arr
import GA.Bridge.Heap
import GA.Bridge.Lib
/-!
# C20 — `arr!` and `box_arr!` build the array their literal syntax denotes
-/
namespace GA.Props.C20
open GA.Arr GA.Gen

theorem tryFromVecOk_same (n : Nat) : tryFromVecOk n n = true := by
  simp [tryFromVecOk, ga_bridge]

/-- `arr![e0, …, ek]` (any number of trailing commas, the empty list included): length = element
    count, values in order, every expression evaluated exactly once, left to right; const-usable -/
theorem arr_list (es : List Expr) (c : Nat) :
    evalArr (.list es c) = some ⟨es.length, es.map (·.val), es.flatMap (·.eff), true⟩ := by rfl

/-- `arr![x; N]` with a type-level length: `N` copies, `x` evaluated once; const-usable -/
theorem arr_repeat_ty (x : Expr) (n : Nat) :
    evalArr (.repTy x n) = some ⟨n, List.replicate n x.val, x.eff, true⟩ := by rfl

/-- `arr![x; n]` with a constant length -/
theorem arr_repeat_const (x : Expr) (n : Nat) :
    evalArr (.repConst x n) = some ⟨n, List.replicate n x.val, x.eff, true⟩ := by rfl

/-- all three forms at once: `arr!` yields what the literal denotes, and is const-usable -/
theorem arr_denotes (inv : Inv) :
    ∃ o, evalArr inv = some o ∧ (o.len, o.vals, o.log) = denote inv ∧ o.const = true ∧ o.vals.length = o.len := by
  cases inv with
  | list es c => exact ⟨_, arr_list es c, rfl, rfl, List.length_map ..⟩
  | repTy x n => exact ⟨_, arr_repeat_ty x n, rfl, rfl, List.length_replicate⟩
  | repConst x n => exact ⟨_, arr_repeat_const x n, rfl, rfl, List.length_replicate⟩

/-- the selected `box_arr!` arm on each form: what is left is the `try_from_vec` length test -/
theorem evalBox_list (es : List Expr) (c : Nat) : evalBox (.list es c) =
    if tryFromVecOk es.length es.length then some ⟨es.length, es.map (·.val), es.flatMap (·.eff), false⟩ else none := by rfl
theorem evalBox_repTy (x : Expr) (n : Nat) : evalBox (.repTy x n) =
    if tryFromVecOk n n then some ⟨n, List.replicate n x.val, x.eff, false⟩ else none := by rfl
theorem evalBox_repConst (x : Expr) (n : Nat) : evalBox (.repConst x n) =
    if tryFromVecOk n n then some ⟨n, List.replicate n x.val, x.eff, false⟩ else none := by rfl

/-- `box_arr!` with the same arguments holds an equal array (same length, values, evaluation log);
    in particular the length inferred from the unit array equals the vector's length, so the
    unchecked unwrap in `__from_vec_helper` is never reached with an error -/
theorem box_denotes (inv : Inv) :
    ∃ o, evalBox inv = some o ∧ (o.len, o.vals, o.log) = denote inv := by
  cases inv with
  | list es c => exact ⟨_, by rw [evalBox_list, tryFromVecOk_same, if_pos rfl], rfl⟩
  | repTy x n => exact ⟨_, by rw [evalBox_repTy, tryFromVecOk_same, if_pos rfl], rfl⟩
  | repConst x n => exact ⟨_, by rw [evalBox_repConst, tryFromVecOk_same, if_pos rfl], rfl⟩

theorem box_eq_arr (inv : Inv) :
    (evalBox inv).map (fun o => (o.len, o.vals, o.log)) = (evalArr inv).map (fun o => (o.len, o.vals, o.log)) := by
  obtain ⟨a, ha, ha', _⟩ := arr_denotes inv
  obtain ⟨b, hb, hb'⟩ := box_denotes inv
  rw [ha, hb]; simp only [Option.map_some, ha', hb']

/-- exactly-once, in order: the log is the concatenation of the operands' effects — nothing is
    evaluated twice, skipped or reordered -/
theorem list_log_exact (es : List Expr) (c : Nat) (o : Out) (h : evalArr (.list es c) = some o) :
    o.log = (es.map (·.eff)).flatten ∧ o.vals.length = es.length ∧ ∀ i (hi : i < es.length), o.vals[i]? = some es[i].val := by
  rw [arr_list] at h
  cases h
  refine ⟨by simp [List.flatMap_def], by simp, ?_⟩
  intro i hi
  simp [hi]

example : evalArr (.list [⟨10, [0]⟩, ⟨20, [1]⟩, ⟨30, [2]⟩] 1) = some ⟨3, [10, 20, 30], [0, 1, 2], true⟩ := by rfl
example : evalBox (.repTy ⟨7, [9]⟩ 4) = some ⟨4, [7, 7, 7, 7], [9], false⟩ := by
  rw [evalBox_repTy, tryFromVecOk_same]; rfl
example : evalArr (.list [] 0) = some ⟨0, [], [], true⟩ := by rfl

end GA.Props.C20

#print axioms GA.Props.C20.arr_list
#print axioms GA.Props.C20.arr_repeat_ty
#print axioms GA.Props.C20.arr_repeat_const
#print axioms GA.Props.C20.arr_denotes
#print axioms GA.Props.C20.box_denotes
#print axioms GA.Props.C20.box_eq_arr
#print axioms GA.Props.C20.list_log_exact
