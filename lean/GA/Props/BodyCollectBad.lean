import GA.Props.BodyCollect
import GA.Props.C05
/-!
C05 on the *interpreted* body of `try_from_iter`: whichever collected element's destructor panics
while it tears down what it had collected (too few / too many items, a source that panics), the
events — the builder's regenerated destructor included — are the panic-free ones.
-/
namespace GA.Props.BodyCollectBad
open GA.Body GA.Own GA.Bridge.BodyCollect GA.Props.BodyCollect

def scriptCtxBad (n : Nat) (hint : Nat × Option Nat) (sc : Script) (bad : Option Id) : Ctx :=
  { scriptCtx n hint sc with bad := bad }

theorem try_run_bad (n : Nat) (hn : n < word) (hint : Nat × Option Nat) (sc : Script) (bad : Option Id) :
    let r := runFn (scriptCtxBad n hint sc bad) Gen.Body.intrusiveDrop.body Gen.Body.tryFromIter [] (st0 sc)
    (r.1, resOf r.2.1) = ((GA.Ops.collectOpD false true n hint sc bad).1, some (GA.Ops.collectOpD false true n hint sc bad).2) := by
  have h := (tryFromIter_body_bad n hn hint sc (scriptCtxBad n hint sc bad) rfl rfl (scriptCtx_src n hint sc) ⟨[], 0, 0, 0, []⟩).1
  have hc : GA.Ops.collectOp false true n hint sc = Own.tryFromIter canonFrags scriptSrc n hint sc := by
    simp [GA.Ops.collectOp, GA.Ops.collectFrags, GA.Ops.libFrags_eq]
  have hd : GA.Ops.collectOpD false true n hint sc bad =
      ((GA.Ops.collectOp false true n hint sc).1, badRes bad (GA.Ops.collectOp false true n hint sc)) := by
    unfold GA.Ops.collectOpD badRes GA.IterOwn.panics
    cases bad with
    | none => rfl
    | some b => simp only []; split <;> rfl
  rw [hd, hc]
  exact h

/-- **C05 for the collect path** — on the interpreted body, for every script, hint, length and
    every element whose destructor panics: the events are the panic-free ones (so each element the
    library took is in the returned array or dropped exactly once — C04's ledger — and no
    never-written slot is touched) -/
theorem C05_body_collect (n : Nat) (hn : n < word) (hint : Nat × Option Nat) (sc : Script) (bad : Option Id) :
    let r := runFn (scriptCtxBad n hint sc bad) Gen.Body.intrusiveDrop.body Gen.Body.tryFromIter [] (st0 sc)
    r.1 = (GA.Ops.collectOp false true n hint sc).1 ∧
    GA.Props.C04.Ledger [] (GA.Ops.collectOp false true n hint sc) := by
  exact ⟨(Prod.mk.inj (try_run_bad n hn hint sc bad)).1.trans (GA.Props.C05.collect_teardown_once false true n hint sc bad).1,
    GA.Props.C04.collect_ledger false true n hint sc⟩

-- two of three wanted items arrive, the destructor of the first one panics
example : (runFn (scriptCtxBad 3 (0, none) ⟨[some 7, some 8, none], 0, none⟩ (some 7)) Gen.Body.intrusiveDrop.body
    Gen.Body.tryFromIter [] (st0 ⟨[some 7, some 8, none], 0, none⟩)).1 =
    [.poll 0, .take 0 7, .poll 1, .take 1 8, .poll 2, .drop 7, .drop 8] ∧
  (runFn (scriptCtxBad 3 (0, none) ⟨[some 7, some 8, none], 0, none⟩ (some 7)) Gen.Body.intrusiveDrop.body
    Gen.Body.tryFromIter [] (st0 ⟨[some 7, some 8, none], 0, none⟩)).2.1 = .panicked := by decide

end GA.Props.BodyCollectBad

#print axioms GA.Bridge.BodyCollect.tryFromIter_body_bad
#print axioms GA.Props.BodyCollectBad.C05_body_collect
