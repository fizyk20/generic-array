import GA.Lemmas.Seq
import GA.Bridge.Seq
/-!
# C09 — lengthen / shorten / split / concat / remove equal the corresponding `Vec` operations

The models perform the block reads and writes of src/sequence.rs at the *regenerated* element
offsets; the theorems say the result is the `List` (= `Vec`) operation, for every length, and that
no read or write leaves the buffer and no slot is left uninitialised (`some …`).
-/
namespace GA.Props.C09
open GA.Seq GA.Gen

/-- `concat` = `Vec::extend` -/
theorem concat_spec (xs ys : List Nat) : concat xs ys = some (xs ++ ys) := by
  simp only [concat, ga_bridge, writeAt_uninit xs ys.length _ rfl, writeAt_after xs ys _ _ rfl rfl, Option.bind_eq_bind,
    Option.bind_some, assumeInit_map_some]

/-- `append` = `Vec::push`: the writes of `concat` with a one-element second block -/
theorem append_spec (xs : List Nat) (x : Nat) : append xs x = some (xs ++ [x]) := by
  simpa only [append, concat, ga_bridge, List.length_singleton] using concat_spec xs [x]

/-- `prepend` = `Vec::insert(0, _)`: the writes of `concat` with a one-element first block -/
theorem prepend_spec (xs : List Nat) (x : Nat) : prepend xs x = some (x :: xs) := by
  simpa only [prepend, concat, ga_bridge, List.length_singleton, Nat.add_comm 1, List.singleton_append] using concat_spec [x] xs

/-- `pop_back` = `Vec::pop` (typed only for `N ≥ 1`) -/
theorem pop_back_spec (xs : List Nat) (x : Nat) : popBack (xs ++ [x]) = some (xs, x) := by
  simp only [popBack, ga_bridge, List.length_append, List.length_singleton, Nat.add_sub_cancel,
    readAt_left xs [x] _ rfl, readAt_right xs [x] 1 rfl, Option.bind_eq_bind, Option.bind_some]

/-- `pop_front` = `Vec::remove(0)` -/
theorem pop_front_spec (xs : List Nat) (x : Nat) : popFront (x :: xs) = some (x, xs) := by
  simp only [popFront, ga_bridge, List.length_cons, Nat.add_sub_cancel, readAt_one (x :: xs) 0 (Nat.succ_pos _),
    readAt_drop (x :: xs) 1 xs.length (Nat.add_comm _ _), List.getElem_cons_zero, List.drop_succ_cons, List.drop_zero,
    Option.bind_eq_bind, Option.bind_some]

/-- owned `split` at `K ≤ N` = `split_at(K)` -/
theorem split_spec (xs : List Nat) (k : Nat) (hk : k ≤ xs.length) : split xs k = some (xs.take k, xs.drop k) := by
  simp only [split, ga_bridge, readAt_take xs k hk, readAt_drop xs k _ (Nat.add_sub_cancel' hk), Option.bind_eq_bind,
    Option.bind_some]

/-- `remove(i)` for `i < N` = `Vec::remove(i)` -/
theorem remove_spec (xs : List Nat) (i : Nat) (hi : i < xs.length) :
    remove xs i = .ok xs[i] (xs.eraseIdx i) := by
  simp only [remove, ga_bridge, Bridge.Seq.removeCopyCountOk_of _ _ hi, hi, decide_true, Bool.not_true, Bool.false_eq_true,
    if_false, readAt_one xs i hi, copyWithin_succ xs i hi, List.take_left' (List.length_eraseIdx_of_lt hi)]

/-- `remove(i)` / `swap_remove(i)` with `i ≥ N` panic before the array is taken apart, so the
    array's own drop glue releases every element exactly once -/
theorem remove_oob (xs : List Nat) (i : Nat) (hi : xs.length ≤ i) : remove xs i = .panic ∧ swapRemove xs i = .panic := by
  have : ¬ i < xs.length := Nat.not_lt.2 hi
  simp only [remove, swapRemove, ga_bridge, this, decide_false, Bool.not_false, ↓reduceIte, and_self]

/-- `swap_remove(i)` for `i < N` = `Vec::swap_remove(i)`: the removed value is `a[i]`, the last
    element takes its place, everything else keeps its position -/
theorem swap_remove_spec (xs : List Nat) (i : Nat) (hi : i < xs.length) :
    swapRemove xs i = .ok xs[i] ((xs.set i (xs[xs.length - 1]'(by omega))).take (xs.length - 1)) := by
  have hl : xs.length - 1 < xs.length := Nat.sub_one_lt (Nat.ne_of_gt (Nat.zero_lt_of_lt hi))
  simp only [swapRemove, ga_bridge, Bridge.Seq.swapRemoveOk_of _ _ hi, hi, decide_true, Bool.not_true, Bool.false_eq_true,
    if_false, swapAt_of_lt xs i _ hi hl, readAt_one, List.length_set, hl,
    List.getElem_set_self, List.take_set_of_le (Nat.le_refl _)]

/-- by-reference `split`: the two halves are sub-ranges of the original storage — the first starts
    at the array's address, they are adjacent, disjoint, and together cover exactly the `N` elements -/
theorem split_ref_partition (n k : Nat) (hk : k ≤ n) :
    let h := (splitRef n k).1; let t := (splitRef n k).2
    h.1 = 0 ∧ h.1 + h.2 = t.1 ∧ t.1 + t.2 = n ∧ splitMut n k = splitRef n k := by
  simp only [splitRef, splitMut, ga_bridge]
  exact ⟨trivial, Nat.zero_add k, Nat.add_sub_cancel' hk, trivial⟩

example : remove [10, 11, 12, 13] 2 = .ok 12 [10, 11, 13] := rfl
example : swapRemove [10, 11, 12, 13] 1 = .ok 11 [10, 13, 12] := rfl
example : swapRemove [10] 0 = .ok 10 [] := rfl
example : remove [10, 11] 2 = .panic := rfl

end GA.Props.C09

#print axioms GA.Props.C09.append_spec
#print axioms GA.Props.C09.prepend_spec
#print axioms GA.Props.C09.concat_spec
#print axioms GA.Props.C09.pop_back_spec
#print axioms GA.Props.C09.pop_front_spec
#print axioms GA.Props.C09.split_spec
#print axioms GA.Props.C09.remove_spec
#print axioms GA.Props.C09.remove_oob
#print axioms GA.Props.C09.swap_remove_spec
#print axioms GA.Props.C09.split_ref_partition
