import GA.Lemmas.Func
import GA.Model.Heap
import GA.Bridge.HeapGen
import GA.Bridge.Heap
/-!
# C08 — generate/map/zip/fold/clone/default apply the function once per index, in order

Caller code here does not panic: `f i = some (g i)`.  `args` is the ordered log of
`(call index, argument)` pairs, `rets` the ordered log of `(call index, returned value)` pairs.
The receiver/argument *form* only selects how each operand is held (`Side`); the theorems are
proved for every `Side`, so they hold for every form and for both the drop-aware and the
no-drop branches (`needs_drop` true/false).
-/
namespace GA.Props.C08
open GA.Own GA.Ops GA.Func GA.Gen

/-- **generate**: `f` is called exactly `N` times with `0, 1, …, N-1` in ascending order and
    result `i` is stored at index `i` (also `Default`). -/
theorem generate_spec (g : Nat → Id) (n : Nat) :
    (generate (fun i => some (g i)) n).2 = .ok ((List.range n).map g) ∧
    rets (generate (fun i => some (g i)) n).1 = (List.range n).map (fun i => (i, g i)) := by
  obtain ⟨tr, s, hf, hr⟩ := fill_gen g n
  unfold generate
  rw [Bridge.Lib.generateWriteBeforeCount_eq, hf]
  exact ⟨rfl, hr⟩

/-- **boxed generate** (and `default_boxed`): the same calls in the same order, whatever the element
    size (zero included) and length (zero included) — the fill loop always runs over all `N` slots -/
theorem boxed_generate_spec (esz ealign : Nat) (g : Nat → Id) (n : Nat) :
    (Heap.boxedGenerate esz ealign n (fun i => some (g i)) true).res = .ok ((List.range n).map g) ∧
    rets (Heap.boxedGenerate esz ealign n (fun i => some (g i)) true).etrace = (List.range n).map (fun i => (i, g i)) := by
  obtain ⟨tr, s, hf, hr⟩ := fill_gen g n
  unfold Heap.boxedGenerate
  -- with the regenerated flags and a succeeding allocator the branches collapse to the fill loop, which is full (`hf`)
  simp only [Bridge.Heap.boxedWriteBeforeCount_eq, GA.Bridge.HeapGen.boxedDanglingAligned_eq, Bool.not_true,
    Bool.and_false, Bool.false_and, Bool.false_eq_true, if_false, hf]
  -- the result is the filled array; the elements' drops after it return nothing
  refine ⟨trivial, ?_⟩
  rw [rets_append, rets_map_drop, List.append_nil, hr]

theorem default_spec (g : Nat → Id) (n : Nat) :
    (defaultOp (fun i => some (g i)) n).2 = .ok ((List.range n).map g) := (generate_spec g n).1

/-- **map**, all four receiver forms: `g` is applied to `(i, a[i])` for `i = 0 … N-1` in ascending
    order, once each; the result holds `g i` at index `i`. -/
theorem map_spec (form : Form) (g : Nat → Id) (xs : List Id) :
    (mapOp form (fun i => some (g i)) xs).2 = .ok ((List.range xs.length).map g) ∧
    args (mapOp form (fun i => some (g i)) xs).1 = (List.range xs.length).zip xs ∧
    rets (mapOp form (fun i => some (g i)) xs).1 = (List.range xs.length).map (fun i => (i, g i)) := by
  rw [mapOp_eq]; exact map_side_spec (mapSide form) g xs

/-- `Clone` is the element-wise instance: `clone` is called on `a[0], a[1], …` in order -/
theorem clone_spec (g : Nat → Id) (xs : List Id) :
    (cloneOp (fun i => some (g i)) xs).2 = .ok ((List.range xs.length).map g) ∧
    args (cloneOp (fun i => some (g i)) xs).1 = (List.range xs.length).zip xs := by
  have := map_spec .ref g xs
  exact ⟨this.1, this.2.1⟩

/-- **zip**, every receiver × argument form and both `needs_drop` branches: call `i` receives
    `(a[i], b[i])`, calls are in ascending order, once each, result `i` is `g i`. -/
theorem zip_spec (fa fb : Form) (ndA ndB : Bool) (g : Nat → Id) (xs ys : List Id) (hlen : xs.length = ys.length) :
    (zipOp fa fb ndA ndB (fun i => some (g i)) xs ys).2 = .ok ((List.range xs.length).map g) ∧
    args (zipOp fa fb ndA ndB (fun i => some (g i)) xs ys).1 = enumFrom2 0 xs ys ∧
    rets (zipOp fa fb ndA ndB (fun i => some (g i)) xs ys).1 = (List.range xs.length).map (fun i => (i, g i)) := by
  unfold zipOp
  simp only [collectFrags_eq]
  exact zip_side_spec _ _ g xs ys hlen

theorem map_form_independent (f1 f2 : Form) (g : Nat → Id) (xs : List Id) :
    (mapOp f1 (fun i => some (g i)) xs).2 = (mapOp f2 (fun i => some (g i)) xs).2 ∧
    args (mapOp f1 (fun i => some (g i)) xs).1 = args (mapOp f2 (fun i => some (g i)) xs).1 := by
  obtain ⟨a1, a2, _⟩ := map_spec f1 g xs
  obtain ⟨b1, b2, _⟩ := map_spec f2 g xs
  exact ⟨a1.trans b1.symm, a2.trans b2.symm⟩

theorem zip_form_independent (fa fb fa' fb' : Form) (ndA ndB ndA' ndB' : Bool) (g : Nat → Id) (xs ys : List Id)
    (hlen : xs.length = ys.length) :
    (zipOp fa fb ndA ndB (fun i => some (g i)) xs ys).2 = (zipOp fa' fb' ndA' ndB' (fun i => some (g i)) xs ys).2 ∧
    args (zipOp fa fb ndA ndB (fun i => some (g i)) xs ys).1 =
      args (zipOp fa' fb' ndA' ndB' (fun i => some (g i)) xs ys).1 := by
  obtain ⟨a1, a2, _⟩ := zip_spec fa fb ndA ndB g xs ys hlen
  obtain ⟨b1, b2, _⟩ := zip_spec fa' fb' ndA' ndB' g xs ys hlen
  exact ⟨a1.trans b1.symm, a2.trans b2.symm⟩

theorem foldSrc_step_some (sd : Side) (c : Consumer) (x : Id) (hx : c.slots[c.idx]? = some x) :
    (foldSrc sd (fun _ => true)).step c = .yield [arg sd.owns c.idx x] x (sd.after c c.pos true) := by
  simp [foldSrc, hx]
theorem foldSrc_step_none (sd : Side) (c : Consumer) (hx : c.slots[c.idx]? = none) :
    (foldSrc sd (fun _ => true)).step c = .done [] c := by
  simp [foldSrc, hx]

theorem fold_loop_spec (sd : Side) (k : Nat) (c : Consumer) (hk : c.slots.length - c.idx < k) :
    (foldLoop (foldSrc sd (fun _ => true)) k c).2.1 = true ∧
    args (foldLoop (foldSrc sd (fun _ => true)) k c).1 = enumFrom c.idx (c.slots.drop c.idx) := by
  induction k generalizing c with
  | zero => omega
  | succ k ih =>
    by_cases hlt : c.idx < c.slots.length
    · have hx : c.slots[c.idx]? = some c.slots[c.idx] := List.getElem?_eq_getElem hlt
      obtain ⟨i1, i2⟩ := side_after_idx sd c c.pos true
      obtain ⟨h1, h2⟩ := ih (sd.after c c.pos true) (by rw [i1, i2]; omega)
      simp only [foldLoop, foldSrc_step_some sd c _ hx, args_append, h1, h2, i1, i2, drop_of_getElem? hx, args_arg]
      simp [enumFrom]
    · have hx : c.slots[c.idx]? = none := List.getElem?_eq_none (by omega)
      simp only [foldLoop, foldSrc_step_none sd c hx]
      rw [List.drop_eq_nil_of_le (by omega)]
      simp [enumFrom]

/-- **fold**: the closure sees `a[0], a[1], …, a[N-1]` in ascending order, once each (the left
    fold of any accumulator function follows), for every receiver form -/
theorem fold_spec (form : Form) (xs : List Id) :
    (foldOp form (fun _ => true) xs).2 = true ∧
    args (foldOp form (fun _ => true) xs).1 = (List.range xs.length).zip xs := by
  obtain ⟨h1, h2⟩ := fold_loop_spec (foldSide form) (xs.length + 1) (Consumer.ofList xs) (by simp [Consumer.ofList])
  unfold foldOp
  simp only [h1, if_true, args_append, h2]
  have hde : ∀ c, (foldSrc (foldSide form) fun _ => true).dropEv c = (foldSide form).dropEv c := fun _ => rfl
  rw [hde, side_dropEv, args_map_drop]
  simp only [Consumer.ofList, List.drop_zero, List.append_nil]
  exact ⟨trivial, enumFrom_zero_eq xs⟩

example : args (zipOp .owned .ref true true (fun i => some (1000 + i)) [1, 2, 3] [101, 102, 103]).1 =
    [(0, 1), (0, 101), (1, 2), (1, 102), (2, 3), (2, 103)] := by rfl
example : (zipOp .boxed .boxed true true (fun i => some (1000 + i)) [1, 2, 3] [101, 102, 103]).2 =
    .ok [1000, 1001, 1002] := by rfl
example : (generate (fun i => some (7 * i)) 0).2 = .ok [] := by decide

end GA.Props.C08

#print axioms GA.Props.C08.generate_spec
#print axioms GA.Props.C08.boxed_generate_spec
#print axioms GA.Props.C08.map_spec
#print axioms GA.Props.C08.clone_spec
#print axioms GA.Props.C08.zip_spec
#print axioms GA.Props.C08.map_form_independent
#print axioms GA.Props.C08.zip_form_independent
#print axioms GA.Props.C08.fold_spec
