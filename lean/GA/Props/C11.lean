import GA.Model.Mem
import GA.Bridge.Mem
/-!
# C11 — flatten and unflatten regroup elements in row-major order over the same storage
-/
namespace GA.Props.C11
open GA.Mem GA.Gen

def Uniform (n : Nat) (xss : List (List Nat)) : Prop := ∀ r ∈ xss, r.length = n

/-- owned `flatten` never trips the size check (`M * (N * s) = (N * M) * s`) and yields the rows
    concatenated in order -/
theorem flatten_ok (xss : List (List Nat)) (n esz : Nat) : flattenOwned xss n esz = .ok xss.flatten := by
  unfold flattenOwned constTransmute
  simp only [ga_bridge]
  rw [show xss.length * (n * esz) = n * xss.length * esz by rw [Nat.mul_assoc n, Nat.mul_left_comm]]
  simp

/-- **row-major order**: row `i` of the input is the block `[i*N, (i+1)*N)` of the flattened array,
    hence element `i*N + j` of the result is element `j` of inner array `i` -/
theorem flatten_row (xss : List (List Nat)) (n : Nat) (hu : Uniform n xss) (i : Nat) (hi : i < xss.length) :
    (xss.flatten.drop (i * n)).take n = xss[i] := by
  induction xss generalizing i with
  | nil => cases hi
  | cons r t ih =>
    obtain ⟨hr, ht⟩ := List.forall_mem_cons.mp hu
    rw [List.flatten_cons]
    cases i with
    | zero => rw [Nat.zero_mul, List.drop_zero, List.take_left' hr]; rfl
    | succ i =>
      rw [Nat.succ_mul, Nat.add_comm, ← List.drop_drop, List.drop_left' hr]
      exact ih ht i (Nat.lt_of_succ_lt_succ hi)

theorem flatten_index (xss : List (List Nat)) (n : Nat) (hu : Uniform n xss) (i j : Nat)
    (hi : i < xss.length) (hj : j < n) :
    xss.flatten[i * n + j]? = xss[i][j]? := by
  rw [← flatten_row xss n hu i hi, List.getElem?_take_of_lt hj, List.getElem?_drop]

theorem flatten_length (xss : List (List Nat)) (n : Nat) (hu : Uniform n xss) :
    xss.flatten.length = xss.length * n := by
  induction xss with
  | nil => exact (Nat.zero_mul n).symm
  | cons r t ih =>
    obtain ⟨hr, ht⟩ := List.forall_mem_cons.mp hu
    rw [List.flatten_cons, List.length_append, ih ht, hr, List.length_cons, Nat.succ_mul, Nat.add_comm]

theorem chunk_flatten (n : Nat) (xss : List (List Nat)) (hu : Uniform n xss) :
    chunk n xss.length xss.flatten = xss := by
  induction xss with
  | nil => rfl
  | cons r t ih =>
    obtain ⟨hr, ht⟩ := List.forall_mem_cons.mp hu
    rw [List.length_cons, chunk, List.flatten_cons, List.take_left' hr, List.drop_left' hr, ih ht]

theorem length_drop_succ_mul {n k : Nat} {xs : List Nat} (hl : xs.length = (k + 1) * n) : (xs.drop n).length = k * n := by
  rw [List.length_drop, hl, Nat.succ_mul, Nat.add_sub_cancel]

theorem flatten_chunk (n k : Nat) (xs : List Nat) (hl : xs.length = k * n) : (chunk n k xs).flatten = xs := by
  induction k generalizing xs with
  | zero => exact (List.eq_nil_of_length_eq_zero (hl.trans (Nat.zero_mul n))).symm
  | succ k ih => rw [chunk, List.flatten_cons, ih _ (length_drop_succ_mul hl), List.take_append_drop]

theorem length_chunk (n k : Nat) (xs : List Nat) : (chunk n k xs).length = k := by
  induction k generalizing xs with
  | zero => rfl
  | succ k ih => rw [chunk, List.length_cons, ih]

theorem chunk_uniform (n k : Nat) (xs : List Nat) (hl : xs.length = k * n) : Uniform n (chunk n k xs) := by
  induction k generalizing xs with
  | zero => exact fun _ h => nomatch h
  | succ k ih =>
    refine List.forall_mem_cons.mpr ⟨?_, ih _ (length_drop_succ_mul hl)⟩
    rw [List.length_take, hl, Nat.succ_mul, Nat.min_eq_left (Nat.le_add_left ..)]

/-- on its documented domain (`N` divides the length) the size check passes and `unflatten` cuts
    the `k` rows of `n` -/
theorem unflattenOwned_eq (xs : List Nat) (n k esz : Nat) (hn : 0 < n) (hl : xs.length = k * n) :
    unflattenOwned xs n esz = .ok (chunk n k xs) := by
  unfold unflattenOwned constTransmute
  simp only [ga_bridge, Nat.ne_of_gt hn, if_false, hl, Nat.mul_div_cancel _ hn, Nat.mul_assoc]
  simp

/-- **`unflatten` is the exact inverse of `flatten`** (over evenly divisible lengths, its documented
    domain), in both directions -/
theorem unflatten_flatten (xss : List (List Nat)) (n esz : Nat) (hn : 0 < n) (hu : Uniform n xss) :
    unflattenOwned xss.flatten n esz = .ok xss := by
  rw [unflattenOwned_eq _ n _ esz hn (flatten_length xss n hu), chunk_flatten n xss hu]

theorem flatten_unflatten (xs : List Nat) (n k esz : Nat) (hn : 0 < n) (hl : xs.length = k * n) :
    ∃ xss, unflattenOwned xs n esz = .ok xss ∧ Uniform n xss ∧ flattenOwned xss n esz = .ok xs :=
  ⟨chunk n k xs, unflattenOwned_eq xs n k esz hn hl, chunk_uniform n k xs hl, by rw [flatten_ok, flatten_chunk n k xs hl]⟩

/-- **by-reference forms are views of the same memory**: same address, and the flattened view has
    exactly the `M * N` elements of the nested array — same total extent -/
theorem flatten_ref_same_extent (n m : Nat) :
    flattenRef n m = ⟨0, m * n⟩ ∧ flattenMut n m = ⟨0, m * n⟩ := by
  simp only [flattenRef, flattenMut, ga_bridge, Nat.mul_comm]
  exact ⟨trivial, trivial⟩

/-- the unflattened view never extends past the source, and has the same extent exactly when `N`
    divides the length (the documented domain) -/
theorem unflatten_ref_within (nm n : Nat) (hn : 0 < n) :
    (unflattenRef nm n).off = 0 ∧ (unflattenRef nm n).len ≤ nm ∧ ((unflattenRef nm n).len = nm ↔ n ∣ nm) ∧
    unflattenMut nm n = unflattenRef nm n := by
  simp only [unflattenRef, unflattenMut, ga_bridge]
  exact ⟨trivial, Nat.div_mul_le_self nm n, (Nat.dvd_iff_div_mul_eq nm n).symm, trivial⟩

/-- writes through a mutable regrouped view reach the original: the view is derived from `self`
    with mutable provenance (a reference transmute or `as_mut_ptr`, never a shared pointer) -/
theorem regrouped_provenance :
    Mem.flattenRefProvenanceOk = true ∧ Mem.flattenMutProvenanceOk = true ∧
    Mem.unflattenRefProvenanceOk = true ∧ Mem.unflattenMutProvenanceOk = true := by
  simp [ga_bridge]

example : flattenOwned [[1, 2], [3, 4], [5, 6]] 2 4 = .ok [1, 2, 3, 4, 5, 6] := rfl
example : unflattenOwned [1, 2, 3, 4, 5, 6] 2 4 = .ok [[1, 2], [3, 4], [5, 6]] := rfl
example : unflattenOwned [1, 2, 3, 4, 5] 2 4 = .panic := rfl    -- outside the documented domain: size check fires

end GA.Props.C11

#print axioms GA.Props.C11.flatten_ok
#print axioms GA.Props.C11.flatten_row
#print axioms GA.Props.C11.flatten_index
#print axioms GA.Props.C11.unflatten_flatten
#print axioms GA.Props.C11.flatten_unflatten
#print axioms GA.Props.C11.flatten_ref_same_extent
#print axioms GA.Props.C11.unflatten_ref_within
#print axioms GA.Props.C11.regrouped_provenance
