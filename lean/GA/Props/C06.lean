import GA.Lemmas.Iter
/-!
# C06 — the by-value iterator is a double-ended, exact-size, fused queue

All theorems are about `GA.Iter.step`/`run`, whose index arithmetic is the *regenerated*
`GA.Gen.Iter` (src/iter.rs) — transported through the bridge equations in `GA.Bridge.Iter`.
-/
namespace GA.Props.C06
open GA.Iter

/-- **Refinement for every finite operation sequence.**  Starting from any state satisfying the
    representation invariant `front ≤ back ≤ N`, the outputs of the iterator equal the outputs
    of the list-deque specification, for all interleavings of all operations of `IOp`. -/
theorem run_refines (ops : List IOp) (it : Iter) (h : Inv it) :
    (run it ops).1 = (Spec.run (abs it) ops).1 ∧
    abs (run it ops).2 = (Spec.run (abs it) ops).2 ∧ Inv (run it ops).2 := by
  induction ops generalizing it with
  | nil => exact ⟨rfl, rfl, h⟩
  | cons op ops ih =>
    obtain ⟨a, b, c⟩ := step_refines it h op
    obtain ⟨a', b', c'⟩ := ih (step it op).2 c
    simp only [run, Spec.run]
    refine ⟨?_, ?_, c'⟩
    · rw [a, a', b]
    · rw [b', b]

/-- API-level statement: `arr.into_iter()` followed by any operation sequence behaves as the
    deque initialised with the array's elements. -/
theorem into_iter_refines (l : List Nat) (ops : List IOp) :
    (run (Iter.ofList l) ops).1 = (Spec.run l ops).1 := by
  obtain ⟨hi, ha⟩ := ofList_inv l
  have := (run_refines ops _ hi).1
  rwa [ha] at this

/-- No operation sequence ever makes the Rust code index outside the array (`IOut.ub`). -/
theorem never_ub (l : List Nat) (ops : List IOp) : IOut.ub ∉ (run (Iter.ofList l) ops).1 := by
  rw [into_iter_refines]
  generalize l = q
  induction ops generalizing q with
  | nil => simp [Spec.run]
  | cons op ops ih =>
    simp only [Spec.run, List.mem_cons, not_or]
    refine ⟨?_, ih _⟩
    -- the specification never answers `ub`; only `write` has two answers
    cases op with
    | write => simp only [Spec.step]; split <;> simp
    | _ => simp [Spec.step]

/-- `len` is exact in every reachable state. -/
theorem len_exact (l : List Nat) (ops : List IOp) :
    let it := (run (Iter.ofList l) ops).2
    (step it .len).1 = .num (abs it).length ∧
    (step it .sizeHint).1 = .hint (abs it).length (some (abs it).length) := by
  obtain ⟨hi, _⟩ := ofList_inv l
  obtain ⟨_, _, c⟩ := run_refines ops _ hi
  exact ⟨(step_refines _ c .len).1, (step_refines _ c .sizeHint).1⟩

/-- Fused: once the remaining queue is empty, `next` and `next_back` return `None` and the state
    stays empty — forever, by `run_refines`. -/
theorem fused (it : Iter) (h : Inv it) (he : abs it = []) :
    (step it .next).1 = .item none ∧ (step it .nextBack).1 = .item none ∧
    abs (step it .next).2 = [] ∧ abs (step it .nextBack).2 = [] := by
  obtain ⟨a, b, _⟩ := step_refines it h .next
  obtain ⟨a', b', _⟩ := step_refines it h .nextBack
  rw [he] at a b a' b'
  exact ⟨a, a', b, b'⟩

/-- Front and back consumption never overlap or skip: `k` `next`s then `m` `next_back`s yield the
    first `k` and the last `m` elements (as far as they exist), each element at most once. -/
theorem front_back_disjoint (l : List Nat) (k m : Nat) :
    (Spec.run l (List.replicate k .next ++ List.replicate m .nextBack)).2 =
      (l.drop k).take (l.length - k - m) := by
  have hfront : ∀ (k : Nat) (q : List Nat) (ops : List IOp),
      (Spec.run q (List.replicate k .next ++ ops)).2 = (Spec.run (q.drop k) ops).2 := by
    intro k
    induction k with
    | zero => intro q ops; rfl
    | succ k ih =>
      intro q ops
      refine (ih q.tail ops).trans ?_
      rw [List.drop_tail]
  have hback : ∀ (m : Nat) (q : List Nat),
      (Spec.run q (List.replicate m .nextBack)).2 = q.take (q.length - m) := by
    intro m
    induction m with
    | zero => intro q; exact (List.take_length).symm
    | succ m ih =>
      intro q
      refine (ih q.dropLast).trans ?_
      rw [List.length_dropLast, List.dropLast_eq_take, List.take_take, Nat.sub_sub, Nat.add_comm 1 m,
        Nat.min_eq_left (Nat.sub_le_sub_left (Nat.le_add_left 1 m) _)]
  rw [hfront, hback, List.length_drop]

/-- A clone yields the same remaining elements and running anything on it leaves the original
    untouched (the model is a value; stated for the outputs). -/
theorem clone_same_remaining (it : Iter) (h : Inv it) (ops : List IOp) :
    (run (clone it) ops).1 = (run it ops).1 := by
  obtain ⟨hc1, hc2⟩ := clone_abs it h
  rw [(run_refines ops _ hc2).1, (run_refines ops _ h).1, hc1]

theorem debug_shows_remaining (it : Iter) (h : Inv it) : (step it .debug).1 = .items (abs it) :=
  (step_refines it h .debug).1

example : GA.Iter.Inv ⟨[10, 11, 12, 13, 14], 1, 4⟩ := by unfold GA.Iter.Inv; decide
example : (run (Iter.ofList [10, 11, 12, 13, 14]) [.nth 1, .nextBack, .nthBack 5, .next]).1 =
    [.item (some 11), .item (some 14), .item none, .item none] := by decide

/-- the index arithmetic of `next`, `nth`, `fold` never wraps around the machine word — for every
    argument, `usize::MAX` included — so the unbounded-`Nat` model above is the code's arithmetic
    (`18446744073709551616` is `2^64`) -/
theorem index_arithmetic_never_wraps (it : Iter) (h : Inv it) (hN : it.slots.length < 18446744073709551616) (n : Nat) :
    Gen.Iter.nthNextNoOvf it.front it.back n = true ∧ Gen.Iter.nthDropHiNoOvf it.front it.back n = true ∧
    (it.front < it.back → Gen.Iter.nextAdvNoOvf it.front = true ∧ Gen.Iter.foldAdvNoOvf it.front = true) := by
  obtain ⟨h1, h2⟩ := h
  have hb : it.back < 18446744073709551616 := by omega
  exact ⟨Bridge.Iter.nthNextNoOvf_of _ _ _ h1 hb, Bridge.Iter.nthDropHiNoOvf_of _ _ _ h1 hb,
    fun hlt => ⟨Bridge.Iter.nextAdvNoOvf_of _ _ hlt hb, Bridge.Iter.foldAdvNoOvf_of _ _ hlt hb⟩⟩

end GA.Props.C06

#print axioms GA.Props.C06.run_refines
#print axioms GA.Props.C06.into_iter_refines
#print axioms GA.Props.C06.never_ub
#print axioms GA.Props.C06.len_exact
#print axioms GA.Props.C06.fused
#print axioms GA.Props.C06.front_back_disjoint
#print axioms GA.Props.C06.clone_same_remaining
#print axioms GA.Props.C06.debug_shows_remaining
#print axioms GA.Props.C06.index_arithmetic_never_wraps
