/-! Small tactics used by the bridge files: robust to syntactic variants of the same arithmetic. -/

/-- closes `genNatExpr = canonNatExpr`; the identifiers are the generated definitions to unfold -/
syntax "bridge_nat" "[" ident,* "]" : tactic
macro_rules
  | `(tactic| bridge_nat [$ids:ident,*]) =>
    `(tactic| first
      | rfl
      | (simp only [$[$ids:ident],*]; done)
      | (simp only [$[$ids:ident],*]; omega)
      | (simp only [$[$ids:ident],*, Nat.min_def, Nat.max_def]; repeat' split <;> omega)
      | (simp [$[$ids:ident],*] <;> omega))

syntax "bridge_bool" "[" ident,* "]" : tactic
macro_rules
  | `(tactic| bridge_bool [$ids:ident,*]) =>
    `(tactic| first
      | rfl
      | decide
      | (simp only [$[$ids:ident],*]; done)
      | (apply Bool.eq_iff_iff.mpr; simp [$[$ids:ident],*] <;> omega))
