import GA.Model.Iter
import GA.Bridge.Iter
namespace GA.Iter
open GA.Gen

theorem sliceOf_length (l : List Nat) (lo hi : Nat) (h : hi ≤ l.length) : (sliceOf l lo hi).length = hi - lo := by
  rw [sliceOf, List.length_take, List.length_drop, Nat.min_eq_left (Nat.sub_le_sub_right h lo)]

theorem sliceOf_empty (l : List Nat) (lo hi : Nat) (h : hi ≤ lo) : sliceOf l lo hi = [] := by
  rw [sliceOf, Nat.sub_eq_zero_of_le h, List.take_zero]

theorem sliceOf_cons (l : List Nat) (lo hi : Nat) (h1 : lo < hi) (h2 : hi ≤ l.length) :
    sliceOf l lo hi = l[lo]'(Nat.lt_of_lt_of_le h1 h2) :: sliceOf l (lo + 1) hi := by
  rw [sliceOf, sliceOf, List.drop_eq_getElem_cons (Nat.lt_of_lt_of_le h1 h2), Nat.sub_add_eq,
    ← Nat.succ_pred_eq_of_pos (Nat.sub_pos_of_lt h1), List.take_succ_cons]
  rfl

theorem sliceOf_append (l : List Nat) (a b c : Nat) (h1 : a ≤ b) (h2 : b ≤ c) :
    sliceOf l a b ++ sliceOf l b c = sliceOf l a c := by
  rw [sliceOf, sliceOf, sliceOf, ← Nat.sub_add_sub_cancel h2 h1, Nat.add_comm, List.take_add, List.drop_drop,
    Nat.add_sub_cancel' h1]

theorem sliceOf_snoc (l : List Nat) (lo hi : Nat) (h1 : lo < hi) (h2 : hi ≤ l.length) :
    sliceOf l lo hi = sliceOf l lo (hi - 1) ++ [l[hi - 1]'(Nat.lt_of_lt_of_le (Nat.pred_lt_of_lt h1) h2)] := by
  have e : hi - 1 + 1 = hi := Nat.succ_pred_eq_of_pos (Nat.zero_lt_of_lt h1)
  rw [← sliceOf_append l lo (hi - 1) hi (Nat.le_pred_of_lt h1) (Nat.pred_le hi),
    sliceOf_cons l (hi - 1) hi (Nat.pred_lt_of_lt h1) h2, sliceOf_empty l _ hi (Nat.le_of_eq e.symm)]

theorem sliceOf_drop (l : List Nat) (lo hi k : Nat) :
    (sliceOf l lo hi).drop k = sliceOf l (lo + k) hi := by
  rw [sliceOf, sliceOf, List.drop_take, List.drop_drop, Nat.sub_add_eq]

theorem sliceOf_take (l : List Nat) (lo hi k : Nat) (hk : lo + k ≤ hi) :
    (sliceOf l lo hi).take k = sliceOf l lo (lo + k) := by
  rw [sliceOf, sliceOf, List.take_take, Nat.add_sub_cancel_left, Nat.min_eq_left (Nat.le_sub_of_add_le' hk)]

theorem sliceOf_set (l : List Nat) (lo hi i v : Nat) :
    sliceOf (l.set (lo + i) v) lo hi = (sliceOf l lo hi).set i v := by
  unfold sliceOf
  rw [List.drop_set]
  simp only [show ¬ (lo + i < lo) by omega, if_false, show lo + i - lo = i by omega]
  rw [List.take_set]

theorem sliceOf_full (l : List Nat) : sliceOf l 0 l.length = l := by
  unfold sliceOf; simp

theorem abs_length (it : Iter) (h : Inv it) : (abs it).length = it.back - it.front :=
  sliceOf_length _ _ _ h.2

theorem readSlot_lt (l : List Nat) (r : Nat) (h : r < l.length) : readSlot l r = .item (some l[r]) := by
  unfold readSlot; simp [List.getElem?_eq_getElem h]

/-- `next` with the regenerated fragments read off (likewise `nextBack_eq`, `nth_eq`, `nthBack_eq`) -/
theorem next_eq (it : Iter) : next it =
    if it.front < it.back then (readSlot it.slots it.front, { it with front := it.front + 1 }) else (.item none, it) := by
  unfold next
  simp only [ga_bridge, decide_eq_true_eq, if_true]

theorem nextBack_eq (it : Iter) : nextBack it =
    if it.front < it.back then (readSlot it.slots (it.back - 1), { it with back := it.back - 1 }) else (.item none, it) := by
  unfold nextBack
  simp only [ga_bridge, decide_eq_true_eq, if_true]
  split
  · rw [Bridge.Iter.nextBackAdvOk_of _ _ ‹_›]; rfl
  · rfl

theorem rangeOk_of {l : List Nat} {lo hi : Nat} (h1 : lo ≤ hi) (h2 : hi ≤ l.length) : rangeOk l lo hi = true := by
  rw [rangeOk, decide_eq_true h1, decide_eq_true h2]; rfl

theorem inv_skip (it : Iter) (h : Inv it) (n : Nat) :
    Inv { it with front := it.front + min n (it.back - it.front) } :=
  ⟨Nat.add_le_of_le_sub' h.1 (Nat.min_le_right ..), h.2⟩

theorem inv_skipBack (it : Iter) (h : Inv it) (n : Nat) :
    Inv { it with back := it.back - min n (it.back - it.front) } :=
  ⟨Nat.le_sub_of_add_le (inv_skip it h n).1, Nat.le_trans (Nat.sub_le ..) h.2⟩

theorem nth_eq (it : Iter) (h : Inv it) (n : Nat) :
    nth it n = next { it with front := it.front + min n (it.back - it.front) } := by
  have hr := rangeOk_of (Nat.le_add_right it.front (min n (it.back - it.front))) (Nat.le_trans (inv_skip it h n).1 h.2)
  unfold nth
  simp only [ga_bridge, hr, Bridge.Iter.nthNextOk_of _ _ n h.1, Bool.and_self, if_true]

theorem nthBack_eq (it : Iter) (h : Inv it) (n : Nat) :
    nthBack it n = nextBack { it with back := it.back - min n (it.back - it.front) } := by
  have hr := rangeOk_of (Nat.sub_le it.back (min n (it.back - it.front))) h.2
  unfold nthBack
  simp only [ga_bridge, hr, Bridge.Iter.nthBackNextOk_of _ _ n h.1, Bool.and_self, if_true]

theorem next_refines (it : Iter) (h : Inv it) :
    (next it).1 = .item (abs it).head? ∧ abs (next it).2 = (abs it).tail ∧ Inv (next it).2 := by
  obtain ⟨h1, h2⟩ := h
  by_cases hlt : it.front < it.back
  · rw [next_eq, if_pos hlt, readSlot_lt _ _ (Nat.lt_of_lt_of_le hlt h2)]
    unfold abs
    rw [sliceOf_cons _ _ _ hlt h2]
    exact ⟨rfl, rfl, hlt, h2⟩
  · rw [next_eq, if_neg hlt]
    unfold abs
    rw [sliceOf_empty _ _ _ (Nat.le_of_not_lt hlt)]
    exact ⟨rfl, rfl, h1, h2⟩

theorem nextBack_refines (it : Iter) (h : Inv it) :
    (nextBack it).1 = .item (abs it).getLast? ∧ abs (nextBack it).2 = (abs it).dropLast ∧
      Inv (nextBack it).2 := by
  obtain ⟨h1, h2⟩ := h
  by_cases hlt : it.front < it.back
  · rw [nextBack_eq, if_pos hlt, readSlot_lt _ (it.back - 1) (Nat.lt_of_lt_of_le (Nat.pred_lt_of_lt hlt) h2)]
    unfold abs
    rw [sliceOf_snoc _ _ _ hlt h2]
    exact ⟨by rw [List.getLast?_concat], by rw [List.dropLast_concat], Nat.le_pred_of_lt hlt, Nat.le_trans (Nat.pred_le _) h2⟩
  · rw [nextBack_eq, if_neg hlt]
    unfold abs
    rw [sliceOf_empty _ _ _ (Nat.le_of_not_lt hlt)]
    exact ⟨rfl, rfl, h1, h2⟩

theorem nth_refines (it : Iter) (h : Inv it) (n : Nat) :
    (nth it n).1 = .item ((abs it).drop n).head? ∧ abs (nth it n).2 = (abs it).drop (n + 1) ∧
      Inv (nth it n).2 := by
  have habs' : abs { it with front := it.front + min n (it.back - it.front) } = (abs it).drop n := by
    unfold abs
    by_cases hn : n ≤ it.back - it.front
    · rw [Nat.min_eq_left hn, sliceOf_drop]
    · rw [Nat.min_eq_right (Nat.le_of_not_le hn), sliceOf_empty _ _ _ (Nat.le_of_eq (Nat.add_sub_cancel' h.1).symm),
        List.drop_eq_nil_of_le (Nat.le_trans (Nat.le_of_eq (sliceOf_length _ _ _ h.2)) (Nat.le_of_not_le hn))]
  obtain ⟨a, b, c⟩ := next_refines _ (inv_skip it h n)
  rw [nth_eq it h n]
  exact ⟨by rw [a, habs'], by rw [b, habs', List.tail_drop], c⟩

theorem nthBack_refines (it : Iter) (h : Inv it) (n : Nat) :
    (nthBack it n).1 = .item ((abs it).take ((abs it).length - n)).getLast? ∧
      abs (nthBack it n).2 = (abs it).take ((abs it).length - (n + 1)) ∧ Inv (nthBack it n).2 := by
  have habs' : abs { it with back := it.back - min n (it.back - it.front) } =
      (abs it).take ((abs it).length - n) := by
    rw [abs_length it h]
    unfold abs
    rw [sliceOf_take _ _ _ _ (Nat.add_le_of_le_sub' h.1 (Nat.sub_le ..))]
    by_cases hn : n ≤ it.back - it.front
    · rw [Nat.min_eq_left hn, ← Nat.add_sub_assoc hn, Nat.add_sub_cancel' h.1]
    · rw [Nat.min_eq_right (Nat.le_of_not_le hn), Nat.sub_sub_self h.1, Nat.sub_eq_zero_of_le (Nat.le_of_not_le hn)]
      rfl
  obtain ⟨a, b, c⟩ := nextBack_refines _ (inv_skipBack it h n)
  rw [nthBack_eq it h n]
  refine ⟨by rw [a, habs'], ?_, c⟩
  rw [b, habs', List.dropLast_eq_take, List.take_take, List.length_take, Nat.min_eq_left (Nat.sub_le ..),
    Nat.min_eq_left (Nat.sub_le ..), Nat.sub_sub]

theorem asSlice_eq (it : Iter) : asSlice it = abs it := by
  unfold asSlice abs; simp only [ga_bridge]

theorem sliceOk_of_inv (it : Iter) (h : Inv it) : sliceOk it = true := by
  unfold sliceOk; simp only [ga_bridge]; exact rangeOk_of h.1 h.2

theorem clone_abs (it : Iter) (h : Inv it) : abs (clone it) = abs it ∧ Inv (clone it) := by
  have hk : min it.slots.length (abs it).length = (abs it).length :=
    Nat.min_eq_right (by rw [abs_length it h]; exact Nat.le_trans (Nat.sub_le ..) h.2)
  unfold clone
  rw [asSlice_eq]
  simp only [hk, List.take_length]
  exact ⟨by rw [abs, sliceOf, List.drop_zero, Nat.sub_zero, List.take_left],
    Nat.zero_le _, by rw [List.length_append]; exact Nat.le_add_right ..⟩

/-- One-step refinement of the list deque.  `Spec.step` never answers `.ub`, so equal results also say that the
    Rust code touches nothing outside the array. -/
theorem step_refines (it : Iter) (h : Inv it) (op : IOp) :
    (step it op).1 = (Spec.step (abs it) op).1 ∧
    abs (step it op).2 = (Spec.step (abs it) op).2 ∧ Inv (step it op).2 := by
  have hl := abs_length it h
  have hok := sliceOk_of_inv it h
  obtain ⟨hc1, hc2⟩ := clone_abs it h
  -- what the four consuming adaptors return, on the iterator itself or on its clone
  have cons : ∀ it' : Iter, Inv it' →
      (step it' .foldSelf).1 = .items (abs it') ∧ (step it' .rfoldSelf).1 = .items (abs it').reverse ∧
      (step it' .countSelf).1 = .num (abs it').length ∧ (step it' .lastSelf).1 = .item (abs it').getLast? := by
    intro it' h'
    have hr := rangeOk_of h'.1 h'.2
    refine ⟨?_, ?_, ?_, ?_⟩
    · simp only [step, foldItems, ga_bridge, hr, if_true]; rfl
    · simp only [step, rfoldItems, ga_bridge, hr, if_true]; rfl
    · simp only [step, ga_bridge, Bridge.Iter.lenOk_of _ _ h'.1, Bool.and_self, if_true, abs_length it' h']
    · simp only [step, ga_bridge, if_true]; exact (nextBack_refines it' h').1
  obtain ⟨s1, s2, s3, s4⟩ := cons it h
  obtain ⟨c1, c2, c3, c4⟩ := cons _ hc2
  rw [hc1] at c1 c2 c3 c4
  have emp : abs { it with front := it.back } = [] ∧ Inv { it with front := it.back } :=
    ⟨sliceOf_empty _ _ _ (Nat.le_refl _), Nat.le_refl _, h.2⟩
  cases op with
  | next => exact next_refines it h
  | nextBack => exact nextBack_refines it h
  | nth n => exact nth_refines it h n
  | nthBack n => exact nthBack_refines it h n
  | len =>
    simp only [step, Spec.step, ga_bridge, Bridge.Iter.lenOk_of _ _ h.1, if_true]
    exact ⟨by rw [hl], trivial, h⟩
  | sizeHint =>
    simp only [step, Spec.step, ga_bridge, Bridge.Iter.lenOk_of _ _ h.1, Bool.and_self, if_true]
    exact ⟨by rw [hl], trivial, h⟩
  | asSlice => simp only [step, Spec.step, hok, if_true, asSlice_eq]; exact ⟨trivial, trivial, h⟩
  | write i v =>
    simp only [step, Spec.step, ga_bridge, rangeOk_of h.1 h.2, if_true, hl]
    split
    · refine ⟨rfl, ?_, ?_⟩
      · unfold abs; simp only []; exact sliceOf_set _ _ _ _ _
      · unfold Inv; simp only [List.length_set]; exact h
    · rename_i hi
      refine ⟨rfl, ?_, h⟩
      rw [List.set_eq_of_length_le (by omega)]
  | clone =>
    simp only [step, Spec.step, hok, if_true, asSlice_eq]
    exact ⟨by rw [hc1], hc1, hc2⟩
  | fold => exact ⟨.trans (by simp only [step, hok, Bool.true_and]) c1, rfl, h⟩
  | rfold => exact ⟨.trans (by simp only [step, hok, Bool.true_and]) c2, rfl, h⟩
  | count => exact ⟨.trans (by simp only [step, hok, Bool.true_and]) c3, rfl, h⟩
  | last => exact ⟨.trans (by simp only [step, hok, Bool.true_and]) c4, rfl, h⟩
  | debug => simp only [step, Spec.step, hok, if_true, asSlice_eq]; exact ⟨trivial, trivial, h⟩
  | foldSelf => exact ⟨s1, emp⟩
  | rfoldSelf => exact ⟨s2, emp⟩
  | countSelf => exact ⟨s3, emp⟩
  | lastSelf => exact ⟨s4, emp⟩

theorem ofList_inv (l : List Nat) : Inv (Iter.ofList l) ∧ abs (Iter.ofList l) = l := by
  unfold Iter.ofList Inv abs
  simp only [ga_bridge]
  exact ⟨⟨Nat.zero_le _, Nat.le_refl _⟩, sliceOf_full l⟩

theorem clone_len (it : Iter) (h : Inv it) : (Iter.clone it).slots.length = it.slots.length := by
  have hl := abs_length it h
  unfold Iter.clone
  rw [asSlice_eq]
  simp only [List.length_append, List.length_take, List.length_drop]
  omega

theorem next_slots (it : Iter) : (Iter.next it).2.slots = it.slots := by
  unfold Iter.next; split <;> rfl
theorem nextBack_slots (it : Iter) : (Iter.nextBack it).2.slots = it.slots := by
  unfold Iter.nextBack; split <;> (try split) <;> rfl

theorem step_len (it : Iter) (h : Inv it) (op : IOp) : (Iter.step it op).2.slots.length = it.slots.length := by
  cases op with
  | next => exact congrArg _ (next_slots it)
  | nextBack => exact congrArg _ (nextBack_slots it)
  | nth n => simp only [Iter.step, nth_eq it h n, next_slots]
  | nthBack n => simp only [Iter.step, nthBack_eq it h n, nextBack_slots]
  | write i v => simp only [Iter.step]; split <;> (try split) <;> simp
  | clone => simp only [Iter.step]; split <;> first | exact clone_len it h | rfl
  | _ => rfl

end GA.Iter
