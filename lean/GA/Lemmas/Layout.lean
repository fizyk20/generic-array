import GA.Model.Layout
import GA.Bridge.Layout
namespace GA.Layout
open GA.Gen

theorem roundUp_of_dvd {x a : Nat} (ha : 0 < a) (h : a ∣ x) : roundUp x a = x := by
  obtain ⟨k, rfl⟩ := h
  rw [roundUp, Nat.add_sub_assoc ha, Nat.mul_add_div ha, Nat.div_eq_of_lt (Nat.sub_lt ha Nat.one_pos), Nat.add_zero,
    Nat.mul_comm]

theorem roundUp_one (x : Nat) : roundUp x 1 = x := roundUp_of_dvd Nat.one_pos (Nat.one_dvd x)

def fieldWeight (c e : Nat) : FieldKind → Nat
  | .child => c
  | .elem => e
  | _ => 0

theorem sum_fieldWeight (c e : Nat) (fs : List FieldKind) :
    (fs.map (fieldWeight c e)).sum = fs.count .child * c + fs.count .elem * e := by
  induction fs with
  | nil => simp
  | cons f fs ih => cases f <;> simp [fieldWeight, ih, Nat.add_mul] <;> omega

/-- when all alignments divide `A` and all sizes and the start offset are multiples of `A`, no padding is inserted -/
theorem offsets_nopad (A : Nat) (hA : 0 < A) (ls : List Lay) (h : ∀ f ∈ ls, f.align ∣ A ∧ A ∣ f.size)
    (off : Nat) (hoff : A ∣ off) :
    ls.foldl (fun off f => roundUp off f.align + f.size) off = off + (ls.map (·.size)).sum ∧
      A ∣ off + (ls.map (·.size)).sum := by
  induction ls generalizing off with
  | nil => exact ⟨rfl, hoff⟩
  | cons f ls ih =>
    obtain ⟨hfa, hfs⟩ := h f List.mem_cons_self
    rw [List.foldl_cons, roundUp_of_dvd (Nat.pos_of_dvd_of_pos hfa hA) (Nat.dvd_trans hfa hoff), List.map_cons,
      List.sum_cons, ← Nat.add_assoc]
    exact ih (fun g hg => h g (List.mem_cons_of_mem f hg)) _ (Nat.dvd_add hoff hfs)

theorem aligns_max (A : Nat) (ls : List Lay) (h : ∀ f ∈ ls, f.align ≤ A) (m : Nat) (hm : m ≤ A)
    (hex : m = A ∨ ∃ f ∈ ls, f.align = A) : ls.foldl (fun a f => max a f.align) m = A := by
  induction ls generalizing m with
  | nil => exact hex.resolve_right (fun ⟨_, hf, _⟩ => nomatch hf)
  | cons f ls ih =>
    have hf := h f List.mem_cons_self
    refine ih (fun g hg => h g (List.mem_cons_of_mem f hg)) _ (Nat.max_le.mpr ⟨hm, hf⟩) ?_
    rcases hex with rfl | ⟨g, hg, hgA⟩
    · exact Or.inl (Nat.max_eq_left hf)
    · rcases List.mem_cons.mp hg with rfl | hg
      · exact Or.inl (hgA.symm ▸ Nat.max_eq_right (hgA ▸ hm))
      · exact Or.inr ⟨g, hg, hgA⟩

theorem fieldLay_size (t c : Lay) (f : FieldKind) : (fieldLay t c f).size = fieldWeight c.size t.size f := by
  cases f <;> rfl

/-- A `repr(C)` node made of `k` children, `e` elements and any number of align-1 ZST fields, in
    any order, has size `k * child + e * elem` and the element alignment (for `k + e > 0`). -/
theorem reprC_nopad (t c : Lay) (ha : 0 < t.align) (hs : t.align ∣ t.size)
    (hca : c.align = t.align) (hcs : t.align ∣ c.size) (fs : List FieldKind)
    (hpos : 0 < fs.count .child + fs.count .elem) :
    reprC (fs.map (fieldLay t c)) =
      ⟨fs.count .child * c.size + fs.count .elem * t.size, t.align⟩ := by
  have hf : ∀ l ∈ fs.map (fieldLay t c), l.align ∣ t.align ∧ t.align ∣ l.size := by
    intro l hl
    obtain ⟨f, _, rfl⟩ := List.mem_map.mp hl
    cases f <;> simp [fieldLay, hca, hs, hcs]
  obtain ⟨h1, h2⟩ := offsets_nopad t.align ha _ hf 0 (Nat.dvd_zero _)
  have hex : ∃ l ∈ fs.map (fieldLay t c), l.align = t.align := by
    rcases (by omega : 0 < fs.count FieldKind.child ∨ 0 < fs.count FieldKind.elem) with h | h
    · exact ⟨_, List.mem_map_of_mem (List.count_pos_iff.mp h), hca⟩
    · exact ⟨_, List.mem_map_of_mem (List.count_pos_iff.mp h), rfl⟩
  -- `1` is the alignment `reprC` starts its maximum from
  have h3 := aligns_max t.align _ (fun l hl => Nat.le_of_dvd ha (hf l hl).1) 1 ha (Or.inr hex)
  rw [Nat.zero_add, List.map_map] at h1 h2
  rw [show (fun l : Lay => l.size) ∘ fieldLay t c = fieldWeight c.size t.size from funext (fieldLay_size t c),
    sum_fieldWeight] at h1 h2
  unfold reprC
  simp only [h1, h3, roundUp_of_dvd ha h2]
end GA.Layout
