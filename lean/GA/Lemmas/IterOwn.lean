import GA.Model.IterOwn
import GA.Lemmas.Iter
import GA.Lemmas.Own
import GA.Bridge.IterOwn
namespace GA.IterOwn
open GA.Iter GA.Own GA.Gen

theorem sliceOf_sublist (l : List Nat) (a b : Nat) : (sliceOf l a b).Sublist l :=
  (List.take_sublist _ _).trans (List.drop_sublist _ _)

theorem abs_nodup (it : Iter) (h : it.slots.Nodup) : (abs it).Nodup :=
  (sliceOf_sublist _ _ _).nodup h

theorem dropIter_eq (it : Iter) : drops (dropIter it) = abs it := by
  simp [dropIter, asSlice_eq]

theorem drops_give (c x : Nat) : drops [Ev.give c x] = [] := rfl
theorem gives_give (c x : Nat) : gives [Ev.give c x] = [x] := rfl

theorem afterNext_item (pre : List Ev) (r : IOut × Iter) (o : Option Id) (ho : r.1 = .item o) :
    drops (afterNext pre r).1 = drops pre ∧ gives (afterNext pre r).1 = gives pre ++ o.toList ∧
    uninitDrops (afterNext pre r).1 = uninitDrops pre ∧ (afterNext pre r).2.2 = r.2 := by
  unfold afterNext
  cases o with
  | none => simp [ho]
  | some x => simp [ho, drops, gives, uninitDrops]

theorem head_tail (q : List Id) : q.head?.toList ++ q.tail = q := by cases q <;> simp

theorem dropLast_getLast (q : List Id) : q.dropLast ++ q.getLast?.toList = q := by
  rcases List.eq_nil_or_concat q with rfl | ⟨l, a, rfl⟩
  · rfl
  · rw [List.concat_eq_append, List.dropLast_concat, List.getLast?_concat]; rfl

/-- `nth` in closed form: the skipped elements are dropped with `front` already past them -/
theorem nthD_eq (it : Iter) (h : Inv it) (n : Nat) (bad : Option Id) :
    nthD it n bad =
      if panics (sliceOf it.slots it.front (it.front + min n (it.back - it.front))) bad then
        ((sliceOf it.slots it.front (it.front + min n (it.back - it.front))).map .drop, .panicked,
          { it with front := it.front + min n (it.back - it.front) })
      else afterNext ((sliceOf it.slots it.front (it.front + min n (it.back - it.front))).map .drop)
        (next { it with front := it.front + min n (it.back - it.front) }) := by
  have hr := rangeOk_of (Nat.le_add_right it.front (min n (it.back - it.front))) (Nat.le_trans (inv_skip it h n).1 h.2)
  unfold nthD
  simp only [ga_bridge, Bridge.IterOwn.nthAdvanceBeforeDrop_eq, Bridge.Iter.nthNextOk_of _ _ n h.1, hr, Bool.and_self,
    Bool.not_true, Bool.false_eq_true, if_false, if_true]

theorem nthBackD_eq (it : Iter) (h : Inv it) (n : Nat) (bad : Option Id) :
    nthBackD it n bad =
      if panics (sliceOf it.slots (it.back - min n (it.back - it.front)) it.back) bad then
        ((sliceOf it.slots (it.back - min n (it.back - it.front)) it.back).map .drop, .panicked,
          { it with back := it.back - min n (it.back - it.front) })
      else afterNext ((sliceOf it.slots (it.back - min n (it.back - it.front)) it.back).map .drop)
        (nextBack { it with back := it.back - min n (it.back - it.front) }) := by
  have hr := rangeOk_of (Nat.sub_le it.back (min n (it.back - it.front))) h.2
  unfold nthBackD
  simp only [ga_bridge, Bridge.IterOwn.nthBackAdvanceBeforeDrop_eq, Bridge.Iter.nthBackNextOk_of _ _ n h.1, hr,
    Bool.and_self, Bool.not_true, Bool.false_eq_true, if_false, if_true]

/-- what `nth` leaves behind, whichever destructor panics: the destructors run in `nth`, the element
    handed to the caller and what the iterator's own `Drop` releases later are, together and in
    order, exactly the elements that were live — nothing twice, nothing lost. -/
theorem nthD_partition (it : Iter) (h : Inv it) (n : Nat) (bad : Option Id) :
    drops (nthD it n bad).1 ++ gives (nthD it n bad).1 ++ drops (dropIter (nthD it n bad).2.2) = abs it ∧
    uninitDrops (nthD it n bad).1 = 0 ∧ Inv (nthD it n bad).2.2 := by
  rw [nthD_eq it h n bad]
  have hinv' := inv_skip it h n
  have hsplit := sliceOf_append it.slots it.front _ it.back (Nat.le_add_right _ (min n (it.back - it.front))) hinv'.1
  split
  · simp only [drops_map_drop, gives_map_drop, uninit_map_drop, List.append_nil, dropIter_eq]
    exact ⟨hsplit, trivial, hinv'⟩
  · obtain ⟨a, b, c⟩ := next_refines _ hinv'
    obtain ⟨e1, e2, e3, e4⟩ := afterNext_item _ _ _ a
    rw [e1, e2, e3, e4, dropIter_eq, b]
    simp only [drops_map_drop, gives_map_drop, uninit_map_drop, List.nil_append]
    refine ⟨?_, trivial, c⟩
    rw [List.append_assoc, head_tail]
    exact hsplit

/-- likewise for `nth_back`; a permutation only, since the skipped back range is dropped before the
    element in front of it is handed out, i.e. not in the order of `abs it` -/
theorem nthBackD_partition (it : Iter) (h : Inv it) (n : Nat) (bad : Option Id) :
    (drops (nthBackD it n bad).1 ++ gives (nthBackD it n bad).1 ++ drops (dropIter (nthBackD it n bad).2.2)).Perm
      (abs it) ∧
    uninitDrops (nthBackD it n bad).1 = 0 ∧ Inv (nthBackD it n bad).2.2 := by
  rw [nthBackD_eq it h n bad]
  have hinv' := inv_skipBack it h n
  have hsplit := sliceOf_append it.slots it.front _ it.back hinv'.1 (Nat.sub_le _ (min n (it.back - it.front)))
  unfold abs; rw [← hsplit]
  split
  · simp only [drops_map_drop, gives_map_drop, uninit_map_drop, List.append_nil, dropIter_eq]
    exact ⟨List.perm_append_comm, trivial, hinv'⟩
  · obtain ⟨a, b, c⟩ := nextBack_refines _ hinv'
    obtain ⟨e1, e2, e3, e4⟩ := afterNext_item _ _ _ a
    rw [e1, e2, e3, e4, dropIter_eq, b]
    simp only [drops_map_drop, gives_map_drop, uninit_map_drop, List.nil_append]
    refine ⟨?_, trivial, c⟩
    rw [List.append_assoc]
    exact List.perm_append_comm.trans ((List.perm_append_comm.trans (.of_eq (dropLast_getLast _))).append_right _)

/-- `last`: every live element is dropped or returned exactly once, except that a panicking
    destructor makes unwinding abandon the in-flight return value (a leak, never a double drop). -/
theorem lastD_partition (it : Iter) (h : Inv it) (bad : Option Id) :
    (drops (lastD it bad).1 ++ gives (lastD it bad).1 ++
        (if panics (asSlice (nextBack it).2) bad then (abs it).getLast?.toList else [])).Perm (abs it) ∧
      uninitDrops (lastD it bad).1 = 0 := by
  obtain ⟨a, b, c⟩ := nextBack_refines it h
  obtain ⟨e1, e2, e3, e4⟩ := afterNext_item [] _ _ a
  have hq := List.Perm.of_eq (dropLast_getLast (abs it))
  unfold lastD
  by_cases hp : panics (asSlice (nextBack it).2) bad = true
  · refine ⟨?_, ?_⟩
    · simp only [hp, if_true]
      simp only [dropIter, gives_map_drop, List.append_nil, drops_map_drop, asSlice_eq, b]
      exact hq
    · simp [hp, dropIter]
  · refine ⟨?_, ?_⟩
    · simp only [hp, Bool.false_eq_true, if_false, drops_append, gives_append, e1, e2, e4, dropIter_eq, b]
      simp only [dropIter, gives_map_drop, drops_nil, gives_nil, List.nil_append, List.append_nil]
      exact hq
    · simp [hp, uninit_append, e3, dropIter]

/-- `made`: the clones made so far; the originals are only lent, hence `gives r.1 = []` -/
theorem cloneLoop_moves (f : Nat → Option Id) (live : List Id) (k : Nat) (made : List Id) :
    let r := cloneLoop true f live k made
    Moves r.1 made r.2.ids ∧ gives r.1 = [] := by
  induction live generalizing k made with
  | nil => exact ⟨Moves.refl made, rfl⟩
  | cons x rest ih =>
    simp only [cloneLoop, if_true]
    cases f k with
    | none =>
      exact ⟨.append (t := [.lend k x, .panic k]) (moves_quiet made rfl rfl rfl rfl) (moves_drop made), gives_map_drop made⟩
    | some y => exact ⟨.append (t := [.lend k x, .take k y]) ⟨.refl _, rfl⟩ (ih _ _).1, (ih _ _).2⟩

end GA.IterOwn
