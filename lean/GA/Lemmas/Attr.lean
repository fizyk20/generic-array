import Lean.Meta.Tactic.Simp.RegisterCommand
/-- simp set: the bridge equations `Gen.x = canonical x` -/
register_simp_attr ga_bridge
/-- simp set: `List.count` pushed through the list operations the ownership ledgers are built from -/
register_simp_attr ga_count
/-- simp set: the equations of the memory-body interpreters `GA.MemBody.run`, `runViews` and what one symbolic step of them needs -/
register_simp_attr mem_body
/-- simp set: the equations of the body interpreter `GA.Body.exec`, one per statement constructor, and what one symbolic step needs -/
register_simp_attr body_exec
