import GA.Model.Ops
import GA.Lemmas.Own
import GA.Lemmas.Ops
/-!
Value / call-order view of the closure-driven operations (C08): when caller code does not panic
(`f i = some (g i)`), which calls are made, with which arguments, in which order, and what is stored.
These facts do not depend on how a side tracks its drop position, so they hold for every `Side`.
-/
namespace GA.Func
open GA.Own GA.Ops GA.Gen

/-- call log: `(call index, argument id)` in program order (two entries per `zip` call: left, right) -/
def args (evs : List Ev) : List (Nat × Id) :=
  evs.filterMap fun e => match e with
    | .give i x => some (i, x)
    | .lend i x => some (i, x)
    | _ => none
def rets (evs : List Ev) : List (Nat × Id) :=
  evs.filterMap fun e => match e with
    | .take i y => some (i, y)
    | _ => none

@[simp] theorem args_append (a b : List Ev) : args (a ++ b) = args a ++ args b := by simp [args]
@[simp] theorem rets_append (a b : List Ev) : rets (a ++ b) = rets a ++ rets b := by simp [rets]
@[simp] theorem args_nil : args [] = [] := rfl
@[simp] theorem rets_nil : rets [] = [] := rfl
@[simp] theorem args_map_drop (l : List Id) : args (l.map .drop) = [] := by
  induction l with
  | nil => rfl
  | cons _ _ ih => exact ih
@[simp] theorem rets_map_drop (l : List Id) : rets (l.map .drop) = [] := by
  induction l with
  | nil => rfl
  | cons _ _ ih => exact ih
theorem args_arg (o : Bool) (i x : Nat) : args [arg o i x] = [(i, x)] := by cases o <;> rfl
theorem rets_arg (o : Bool) (i x : Nat) : rets [arg o i x] = [] := by cases o <;> rfl

def enumFrom (j : Nat) : List Id → List (Nat × Id)
  | [] => []
  | x :: t => (j, x) :: enumFrom (j + 1) t

theorem enumFrom_zero_eq (l : List Id) : enumFrom 0 l = (List.range l.length).zip l := by
  suffices h : ∀ j, enumFrom j l = (List.range' j l.length).zip l by
    rw [h 0, List.range_eq_range']
  induction l with
  | nil => intro j; simp [enumFrom]
  | cons x t ih => intro j; simp [enumFrom, ih, List.range'_succ]

def enumFrom2 (j : Nat) : List Id → List Id → List (Nat × Id)
  | x :: t, y :: u => (j, x) :: (j, y) :: enumFrom2 (j + 1) t u
  | _, _ => []

theorem collect_of_full {σ : Type} (S : Src σ) (n : Nat) (s0 s s' : σ) (tr evs : List Ev) (out : List Id)
    (hf : fillLoop true true S n s0 [] = (tr, .full out s)) (hs : S.step s = .done evs s') :
    fromIter canonFrags S n (n, some n) s0 = (tr ++ evs ++ S.dropEv s', .ok out) := by
  have hr : hintReject canonFrags (n, some n) n = false := by simp [hintReject, canonFrags]
  unfold fromIter
  rw [tryFromIter_canon, hr, hf]
  simp only [Bool.false_eq_true, if_false, hs]

/-- `S` drives a total closure `g`: in a state with index `i < n` one poll makes call `i`, yields
    `g i` and moves to index `i + 1`; `rest s` is the log of the arguments still to be passed. -/
def Calls {σ : Type} (S : Src σ) (g : Nat → Id) (n : Nat) (idx : σ → Nat) (inv : σ → Prop)
    (rest : σ → List (Nat × Id)) : Prop :=
  ∀ s, inv s → idx s < n → ∃ evs s', S.step s = .yield evs (g (idx s)) s' ∧ inv s' ∧ idx s' = idx s + 1 ∧
    args evs ++ rest s' = rest s ∧ rets evs = [(idx s, g (idx s))]

section
variable {σ : Type} {S : Src σ} {g : Nat → Id} {n : Nat} {idx : σ → Nat} {inv : σ → Prop}
  {rest : σ → List (Nat × Id)}

theorem Calls.fill (h : Calls S g n idx inv rest) (k : Nat) (s : σ) (out : List Id) (hi : inv s)
    (hk : idx s + k = n) :
    let r := fillLoop true true S k s out
    ∃ s', r.2 = .full (out ++ (List.range' (idx s) k).map g) s' ∧ inv s' ∧ idx s' = n ∧
      args r.1 ++ rest s' = rest s ∧ rets r.1 = (List.range' (idx s) k).map fun i => (i, g i) := by
  induction k generalizing s out with
  | zero => exact ⟨s, by simp [fillLoop], hi, hk, rfl, rfl⟩
  | succ k ih =>
    obtain ⟨evs, s₁, hs, hi₁, hx, ha, hr⟩ := h s hi (by omega)
    obtain ⟨s', h1, h2, h3, h4, h5⟩ := ih s₁ (out ++ [g (idx s)]) hi₁ (by omega)
    rw [hx] at h1 h5
    refine ⟨s', ?_, h2, h3, ?_, ?_⟩
    · simp only [fillLoop, hs, h1, List.range'_succ, List.map_cons, List.append_assoc, List.singleton_append]
    · simp only [fillLoop, hs, args_append, List.append_assoc, h4, ha]
    · simp only [fillLoop, hs, rets_append, hr, h5, List.range'_succ, List.map_cons, List.singleton_append]

/-- **every closure-driven collect** (`map`, `zip`, in every form): `g` is called with the argument
    groups of `rest s0` in order, once each, and `g i` is stored at index `i`. -/
theorem Calls.spec (h : Calls S g n idx inv rest)
    (hend : ∀ s, inv s → idx s = n → S.step s = .done [] s ∧ rest s = [])
    {owned : σ → List Id} (hdrop : ∀ s, S.dropEv s = (owned s).map .drop) (s0 : σ) (hi : inv s0) (h0 : idx s0 = 0) :
    let r := fromIter canonFrags S n (n, some n) s0
    r.2 = .ok ((List.range n).map g) ∧ args r.1 = rest s0 ∧ rets r.1 = (List.range n).map fun i => (i, g i) := by
  obtain ⟨s', h1, h2, h3, h4, h5⟩ := h.fill n s0 [] hi (by omega)
  rw [h0, ← List.range_eq_range'] at h1 h5
  rw [List.nil_append] at h1
  rw [(hend s' h2 h3).2, List.append_nil] at h4
  rw [collect_of_full S n s0 s' s' _ [] _ (Prod.ext rfl h1) (hend s' h2 h3).1]
  -- the trace is the fill's, the final `done []`'s and the destructor's; the last two pass and return nothing
  refine ⟨rfl, ?_, ?_⟩
  · rw [args_append, args_append, args_nil, hdrop, args_map_drop, List.append_nil, List.append_nil, h4]
  · rw [rets_append, rets_append, rets_nil, hdrop, rets_map_drop, List.append_nil, List.append_nil, h5]

end

theorem genSrc_calls (g : Nat → Id) (n : Nat) :
    Calls (genSrc fun i => some (g i)) g n (fun i => i) (fun _ => True) (fun _ => []) :=
  fun _ _ _ => ⟨_, _, rfl, trivial, rfl, rfl, rfl⟩

/-- `generate`'s loop with a non-panicking generator: called with `0, 1, …, n-1` in order, result `i ↦ g i` -/
theorem fill_gen (g : Nat → Id) (n : Nat) :
    ∃ tr s, fillLoop true true (genSrc fun i => some (g i)) n 0 [] = (tr, .full ((List.range n).map g) s) ∧
      rets tr = (List.range n).map fun i => (i, g i) := by
  obtain ⟨s, h1, -, -, -, h2⟩ := (genSrc_calls g n).fill n 0 [] trivial (Nat.zero_add n)
  rw [List.nil_append, ← List.range_eq_range'] at h1
  exact ⟨_, s, Prod.ext rfl h1, by rw [h2, List.range_eq_range']⟩

theorem mapSrc_calls (sd : Side) (g : Nat → Id) (xs : List Id) :
    Calls (mapSrc sd fun i => some (g i)) g xs.length (·.idx) (·.slots = xs)
      (fun c => enumFrom c.idx (c.slots.drop c.idx)) := by
  intro c hc (hlt : c.idx < xs.length)
  subst hc
  have hx := List.getElem?_eq_getElem hlt
  obtain ⟨i1, i2⟩ := side_after_idx sd c c.pos true
  refine ⟨_, _, by simp only [mapSrc, hx]; rfl, i2, i1, ?_, by cases sd.owns <;> rfl⟩
  simp only [i1, i2, drop_of_getElem? hx]
  cases sd.owns <;> rfl

/-- **`map`** with a non-panicking closure `g`, for every way the receiver is held: calls
    `g` with `(0, xs[0]), (1, xs[1]), …` in ascending order, once each, and stores `g i` at index `i`. -/
theorem map_side_spec (sd : Side) (g : Nat → Id) (xs : List Id) :
    let r := fromIter canonFrags (mapSrc sd (fun i => some (g i))) xs.length (xs.length, some xs.length) (Consumer.ofList xs)
    r.2 = .ok ((List.range xs.length).map g) ∧ args r.1 = (List.range xs.length).zip xs ∧
      rets r.1 = (List.range xs.length).map (fun i => (i, g i)) := by
  rw [← enumFrom_zero_eq]
  exact (mapSrc_calls sd g xs).spec
    (fun c hc hi => ⟨by simp only [mapSrc, hi, ← hc, List.getElem?_eq_none (Nat.le_refl _)],
      by rw [hi, ← hc, List.drop_length]; rfl⟩)
    (side_dropEv sd) (Consumer.ofList xs) rfl rfl

theorem zipSrc_calls (sa sb : Side) (g : Nat → Id) (xs ys : List Id) (hlen : xs.length = ys.length) :
    Calls (zipSrc sa sb fun i => some (g i)) g xs.length (·.a.idx)
      (fun z => z.a.slots = xs ∧ z.b.slots = ys ∧ z.b.idx = z.a.idx)
      (fun z => enumFrom2 z.a.idx (z.a.slots.drop z.a.idx) (z.b.slots.drop z.b.idx)) := by
  intro z ⟨ha, hb, hab⟩ (hlt : z.a.idx < xs.length)
  subst ha hb
  have hx := List.getElem?_eq_getElem hlt
  have hy := List.getElem?_eq_getElem (show z.b.idx < z.b.slots.length by omega)
  obtain ⟨a1, a2⟩ := side_after_idx sa z.a z.b.pos true
  obtain ⟨b1, b2⟩ := side_after_idx sb z.b z.a.pos true
  refine ⟨_, _, by simp only [zipSrc, hx, hy]; rfl, ⟨a2, b2, by rw [a1, b1, hab]⟩, a1, ?_,
    by cases sa.owns <;> cases sb.owns <;> rfl⟩
  simp only [a1, a2, b1, b2, drop_of_getElem? hx, drop_of_getElem? hy]
  cases sa.owns <;> cases sb.owns <;> rfl

/-- **`zip`** with a non-panicking closure, for every pair of sides: call `i` gets `(a[i], b[i])`,
    calls are in ascending order, once each, `g i` is stored at index `i`. -/
theorem zip_side_spec (sa sb : Side) (g : Nat → Id) (xs ys : List Id) (hlen : xs.length = ys.length) :
    let r := fromIter canonFrags (zipSrc sa sb (fun i => some (g i))) xs.length (xs.length, some xs.length)
      ⟨Consumer.ofList xs, Consumer.ofList ys⟩
    r.2 = .ok ((List.range xs.length).map g) ∧ args r.1 = enumFrom2 0 xs ys ∧
      rets r.1 = (List.range xs.length).map (fun i => (i, g i)) :=
  (zipSrc_calls sa sb g xs ys hlen).spec
    (fun z hz hi => ⟨by simp only [zipSrc, hi, ← hz.1, List.getElem?_eq_none (Nat.le_refl _)],
      by rw [hi, ← hz.1, List.drop_length]; rfl⟩)
    (zipSrc_dropEv sa sb _)
    ⟨Consumer.ofList xs, Consumer.ofList ys⟩ ⟨rfl, rfl, rfl⟩ rfl

end GA.Func
