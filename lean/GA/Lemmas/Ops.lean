import GA.Model.Ops
import GA.Lemmas.Own
import GA.Bridge.Lib
namespace GA.Ops
open GA.Own GA.Gen

theorem libFrags_eq : libFrags = canonFrags := by
  unfold libFrags canonFrags
  simp only [CollectFrags.mk.injEq]
  exact ⟨funext fun lo => funext fun n => Bridge.Lib.hintLoReject_eq lo n,
    funext fun hi => funext fun n => Bridge.Lib.hintHiReject_eq hi n,
    funext fun p => funext fun n => Bridge.Lib.isFull_eq p n,
    Bridge.Lib.fullBeforePoll_eq, Bridge.Lib.extendWriteBeforeCount_eq, Bridge.Lib.extendDestFirst_eq,
    Bridge.Lib.finishAfterProbe_eq⟩

theorem boxFrags_eq : boxFrags = canonFrags := by
  unfold boxFrags canonFrags
  simp only [CollectFrags.mk.injEq, and_true]
  refine ⟨funext fun lo => funext fun n => Bridge.Alloc.hintLoReject_eq lo n,
    funext fun hi => funext fun n => Bridge.Alloc.hintHiReject_eq hi n,
    funext fun p => funext fun n => ?_⟩
  rw [Bridge.Alloc.notFull_eq]; by_cases h : p = n <;> simp [h]

theorem collectFrags_eq (b : Bool) : collectFrags b = canonFrags := by
  cases b <;> simp [collectFrags, libFrags_eq, boxFrags_eq]

def mapSide : Form → Side
  | .owned => .consumer Lib.mapPosNew Lib.mapAdvBeforeCall
  | .boxed => .owned
  | _ => .borrowed

theorem mapOp_eq (form : Form) (f : Nat → Option Id) (xs : List Id) :
    mapOp form f xs = fromIter canonFrags (mapSrc (mapSide form) f) xs.length (xs.length, some xs.length)
      (Consumer.ofList xs) := by
  cases form <;> simp [mapOp, mapSide, libFrags_eq, boxFrags_eq]

end GA.Ops
