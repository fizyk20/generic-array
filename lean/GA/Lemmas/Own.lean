import GA.Model.Own
/-!
Generic ledger theorems for the fill loop, the fold loop and `try_from_iter` over any source that
satisfies a one-step ownership contract.  A ledger is a relation `Moves tr a b` between what the
library holds before and after a trace; ledgers of loops are composed from those of their steps.
-/
namespace GA.Own

@[simp] theorem gives_nil : gives [] = [] := rfl
@[simp] theorem takes_nil : takes [] = [] := rfl
@[simp] theorem drops_nil : drops [] = [] := rfl
@[simp] theorem uninit_nil : uninitDrops [] = 0 := rfl

theorem proj_append {β : Type} {p : List Ev → List β} (hnil : p [] = []) (hcons : ∀ e t, p (e :: t) = p [e] ++ p t)
    (a b : List Ev) : p (a ++ b) = p a ++ p b := by
  induction a with
  | nil => rw [hnil]; rfl
  | cons e t ih => rw [List.cons_append, hcons, ih, hcons e t, List.append_assoc]

@[simp] theorem gives_append (a b : List Ev) : gives (a ++ b) = gives a ++ gives b :=
  proj_append rfl (fun e _ => by cases e <;> rfl) a b
@[simp] theorem takes_append (a b : List Ev) : takes (a ++ b) = takes a ++ takes b :=
  proj_append rfl (fun e _ => by cases e <;> rfl) a b
@[simp] theorem drops_append (a b : List Ev) : drops (a ++ b) = drops a ++ drops b :=
  proj_append rfl (fun e _ => by cases e <;> rfl) a b
@[simp] theorem uninit_append (a b : List Ev) : uninitDrops (a ++ b) = uninitDrops a + uninitDrops b := by
  induction a with
  | nil => exact (Nat.zero_add _).symm
  | cons e t ih =>
    cases e with
    | dropUninit => exact (congrArg (· + 1) ih).trans (Nat.add_right_comm ..)
    | _ => exact ih
@[simp] theorem polls_append (a b : List Ev) : polls (a ++ b) = polls a + polls b := by
  induction a with
  | nil => exact (Nat.zero_add _).symm
  | cons e t ih =>
    cases e with
    | poll => exact (congrArg (· + 1) ih).trans (Nat.add_right_comm ..)
    | _ => exact ih

@[simp] theorem drops_map_drop (l : List Id) : drops (l.map .drop) = l := by
  induction l with
  | nil => rfl
  | cons x _ ih => exact congrArg (x :: ·) ih
theorem proj_map_drop {β : Type} (p : List Ev → β) (h : ∀ x t, p (.drop x :: t) = p t) (l : List Id) :
    p (l.map .drop) = p [] := by
  induction l with
  | nil => rfl
  | cons x _ ih => exact (h x _).trans ih

@[simp] theorem gives_map_drop (l : List Id) : gives (l.map .drop) = [] := proj_map_drop gives (fun _ _ => rfl) l
@[simp] theorem takes_map_drop (l : List Id) : takes (l.map .drop) = [] := proj_map_drop takes (fun _ _ => rfl) l
@[simp] theorem uninit_map_drop (l : List Id) : uninitDrops (l.map .drop) = 0 :=
  proj_map_drop uninitDrops (fun _ _ => rfl) l
@[simp] theorem polls_map_drop (l : List Id) : polls (l.map .drop) = 0 := proj_map_drop polls (fun _ _ => rfl) l

@[simp] theorem builderDrop_true (out : List Id) : builderDrop true out = out.map .drop := by
  simp [builderDrop]

/-- what a source owes: from every state satisfying its invariant, per step, everything it owned
    or was handed is given away, dropped, yielded, or still owned, and the invariant is kept; its
    destructor drops exactly what it owns. -/
structure Contract {σ : Type} (S : Src σ) (owned : σ → List Id) (inv : σ → Prop) : Prop where
  yield : ∀ s evs x s', inv s → S.step s = .yield evs x s' →
    (gives evs ++ drops evs ++ (if S.owns then [x] else []) ++ owned s').Perm (owned s ++ takes evs) ∧
      uninitDrops evs = 0 ∧ inv s'
  done : ∀ s evs s', inv s → S.step s = .done evs s' →
    (gives evs ++ drops evs ++ owned s').Perm (owned s ++ takes evs) ∧ uninitDrops evs = 0 ∧ inv s'
  panic : ∀ s evs s', inv s → S.step s = .panic evs s' →
    (gives evs ++ drops evs ++ owned s').Perm (owned s ++ takes evs) ∧ uninitDrops evs = 0 ∧ inv s'
  drop : ∀ s, drops (S.dropEv s) = owned s ∧ gives (S.dropEv s) = [] ∧ takes (S.dropEv s) = [] ∧
    uninitDrops (S.dropEv s) = 0

def FillRes.ids {σ : Type} : FillRes σ → List Id
  | .full out _ => out
  | .short out _ => out
  | .panicked => []
def FillRes.rest {σ : Type} (owned : σ → List Id) : FillRes σ → List Id
  | .full _ s => owned s
  | .short _ s => owned s
  | .panicked => []

/-- The trace `tr` turns the ids `a` held by the library into `b`: together with what caller code
    handed in, every id is given away, dropped or still held, exactly once, and no never-written
    slot is dropped. -/
def Moves (tr : List Ev) (a b : List Id) : Prop :=
  (gives tr ++ drops tr ++ b).Perm (a ++ takes tr) ∧ uninitDrops tr = 0

theorem moves_iff_count {tr : List Ev} {a b : List Id} :
    Moves tr a b ↔ (∀ x, (gives tr).count x + (drops tr).count x + b.count x = a.count x + (takes tr).count x) ∧
      uninitDrops tr = 0 := by
  simp only [Moves, List.perm_iff_count, List.count_append]

theorem Moves.refl (a : List Id) : Moves [] a a := moves_iff_count.mpr ⟨fun _ => by simp, rfl⟩

theorem Moves.append {t u : List Ev} {a b c : List Id} (h₁ : Moves t a b) (h₂ : Moves u b c) :
    Moves (t ++ u) a c := by
  rw [moves_iff_count] at *
  simp only [gives_append, drops_append, takes_append, uninit_append, List.count_append, h₁.2, h₂.2]
  exact ⟨fun x => by have := h₁.1 x; have := h₂.1 x; omega, trivial⟩

theorem Moves.frame_left {t : List Ev} {a b : List Id} (h : Moves t a b) (l : List Id) :
    Moves t (l ++ a) (l ++ b) := by
  rw [moves_iff_count] at *
  simp only [List.count_append]
  exact ⟨fun x => by have := h.1 x; omega, h.2⟩

theorem Moves.frame_right {t : List Ev} {a b : List Id} (h : Moves t a b) (r : List Id) :
    Moves t (a ++ r) (b ++ r) := by
  rw [moves_iff_count] at *
  simp only [List.count_append]
  exact ⟨fun x => by have := h.1 x; omega, h.2⟩

theorem moves_drop (l : List Id) : Moves (l.map .drop) l [] :=
  ⟨by simp, uninit_map_drop l⟩

theorem moves_arg (o : Bool) (i x : Nat) : Moves [arg o i x] (if o then [x] else []) [] := by
  cases o <;> exact ⟨List.Perm.refl _, rfl⟩

theorem moves_take (i y : Nat) : Moves [.take i y] [] [y] := ⟨List.Perm.refl _, rfl⟩

theorem moves_quiet {t : List Ev} (a : List Id) (hg : gives t = []) (hd : drops t = []) (ht : takes t = [])
    (hu : uninitDrops t = 0) : Moves t a a :=
  ⟨by simp [hg, hd, ht], hu⟩

theorem moves_panic (i : Nat) (a : List Id) : Moves [.panic i] a a := moves_quiet a rfl rfl rfl rfl

section
variable {σ : Type} {S : Src σ} {owned : σ → List Id} {inv : σ → Prop}

def Step.evs : Step σ → List Ev
  | .yield evs _ _ => evs | .done evs _ => evs | .panic evs _ => evs
def Step.next : Step σ → σ
  | .yield _ _ s => s | .done _ s => s | .panic _ s => s
def Step.item (owns : Bool) : Step σ → List Id
  | .yield _ x _ => if owns then [x] else []
  | _ => []

/-- the three step clauses of a contract, read as one -/
theorem Contract.step (hc : Contract S owned inv) {s : σ} (hi : inv s) :
    Moves (S.step s).evs (owned s) ((S.step s).item S.owns ++ owned (S.step s).next) ∧ inv (S.step s).next := by
  cases hs : S.step s with
  | yield evs x s' =>
    obtain ⟨hp, hu, hi'⟩ := hc.yield s evs x s' hi hs
    exact ⟨⟨by rwa [List.append_assoc] at hp, hu⟩, hi'⟩
  | done evs s' => obtain ⟨hp, hu, hi'⟩ := hc.done s evs s' hi hs; exact ⟨⟨hp, hu⟩, hi'⟩
  | panic evs s' => obtain ⟨hp, hu, hi'⟩ := hc.panic s evs s' hi hs; exact ⟨⟨hp, hu⟩, hi'⟩

theorem Contract.moves_drop (hc : Contract S owned inv) (s : σ) : Moves (S.dropEv s) (owned s) [] := by
  obtain ⟨d1, d2, d3, d4⟩ := hc.drop s
  exact ⟨by simp [d1, d2, d3], d4⟩

theorem Contract.of_step
    (hstep : ∀ s, inv s →
      Moves (S.step s).evs (owned s) ((S.step s).item S.owns ++ owned (S.step s).next) ∧ inv (S.step s).next)
    (hdrop : ∀ s, S.dropEv s = (owned s).map .drop) : Contract S owned inv where
  yield s evs x s' hi hs := by
    have := hstep s hi; rw [hs] at this
    exact ⟨by simpa only [List.append_assoc, Step.evs, Step.item, Step.next] using this.1.1, this.1.2, this.2⟩
  done s evs s' hi hs := by have := hstep s hi; rw [hs] at this; exact and_assoc.mp this
  panic s evs s' hi hs := by have := hstep s hi; rw [hs] at this; exact and_assoc.mp this
  drop s := hdrop s ▸ ⟨drops_map_drop _, gives_map_drop _, takes_map_drop _, uninit_map_drop _⟩

/-- **Fill loop**: the builder's partial output and what the source owns move into the result and
    what the source still owns (nothing on a panic: unwinding drops builder and source). -/
theorem fillLoop_moves (hc : Contract S owned inv) (hown : S.owns = true) (k : Nat) (s : σ) (hi : inv s)
    (out : List Id) :
    let r := fillLoop true true S k s out
    Moves r.1 (out ++ owned s) (r.2.ids ++ r.2.rest owned) ∧ ∀ o s', r.2 = .full o s' → inv s' := by
  induction k generalizing s out with
  | zero =>
    simp only [fillLoop, ↓reduceIte]
    exact ⟨Moves.refl _, fun _ _ h => by cases h; exact hi⟩
  | succ k ih =>
    obtain ⟨hm, hi'⟩ := hc.step hi
    cases hs : S.step s <;> rw [hs] at hm hi' <;> simp only [fillLoop, hs, builderDrop_true]
    · obtain ⟨ihm, ihi⟩ := ih _ hi' (out ++ [_])
      simp only [Step.item, hown, if_true] at hm
      rw [List.append_assoc] at ihm
      exact ⟨(hm.frame_left out).append ihm, ihi⟩
    · exact ⟨hm.frame_left out, fun _ _ h => by cases h⟩
    · exact ⟨hm.frame_left out |>.append ((moves_drop out).frame_right _) |>.append (hc.moves_drop _),
        fun _ _ h => by cases h⟩

/-- **Fill-loop ledger** (for every source state, every partial output, every number of slots):
    all ids the builder and the source owned, plus everything caller code handed in, end up —
    exactly once — given away, dropped, in the output, or still owned by the source. -/
theorem fillLoop_ledger {σ : Type} (S : Src σ) (owned : σ → List Id) (inv : σ → Prop)
    (hc : Contract S owned inv) (hown : S.owns = true) (k : Nat) (s : σ) (hi : inv s) (out : List Id) :
    (gives (fillLoop true true S k s out).1 ++ drops (fillLoop true true S k s out).1 ++
        (fillLoop true true S k s out).2.ids ++ (fillLoop true true S k s out).2.rest owned).Perm
      (out ++ owned s ++ takes (fillLoop true true S k s out).1) ∧
    uninitDrops (fillLoop true true S k s out).1 = 0 ∧
    (∀ o s', (fillLoop true true S k s out).2 = .full o s' → inv s') := by
  obtain ⟨⟨hp, hu⟩, hinv⟩ := fillLoop_moves hc hown k s hi out
  exact ⟨by simpa only [List.append_assoc] using hp, hu, hinv⟩

theorem fillLoop_len {σ : Type} (wbc : Bool) (S : Src σ) (k : Nat) (s : σ) (out : List Id) :
    match (fillLoop wbc true S k s out).2 with
    | .full o _ => o.length = out.length + k
    | .short o _ => o.length < out.length + k
    | .panicked => True := by
  induction k generalizing s out with
  | zero => exact (Nat.add_zero _).symm
  | succ k ih =>
    cases hs : S.step s with
    | yield evs x s' =>
      have := ih s' (out ++ [x])
      rw [List.length_append, List.length_singleton, Nat.add_assoc, Nat.add_comm 1 k] at this
      simp only [fillLoop, hs]
      exact this
    | done evs s' => simp only [fillLoop, hs]; exact Nat.lt_add_of_pos_right (Nat.succ_pos k)
    | panic evs s' => simp only [fillLoop, hs]

theorem fillLoop_gen_cases (wbc : Bool) (f : Nat → Option Id) (k j : Nat) (out : List Id) :
    (∃ tr o j', fillLoop wbc true (genSrc f) k j out = (tr, .full o j') ∧ o.length = out.length + k) ∨
    ∃ tr, fillLoop wbc true (genSrc f) k j out = (tr, .panicked) := by
  induction k generalizing j out with
  | zero => exact .inl ⟨[], out, j, rfl, rfl⟩
  | succ k ih =>
    cases hf : f j with
    | none =>
      have hs : (genSrc f).step j = .panic [.panic j] (j + 1) := by simp only [genSrc, hf]
      simp only [fillLoop, hs]
      exact .inr ⟨_, rfl⟩
    | some y =>
      have hs : (genSrc f).step j = .yield [.take j y] y (j + 1) := by simp only [genSrc, hf]
      simp only [fillLoop, hs]
      rcases ih (j + 1) (out ++ [y]) with ⟨tr, o, j', h, hl⟩ | ⟨tr, h⟩ <;> rw [h]
      · exact .inl ⟨_, o, j', rfl, by rw [hl, List.length_append]; exact Nat.add_right_comm ..⟩
      · exact .inr ⟨_, rfl⟩

/-- canonical reading of the `try_from_iter` conditions -/
def canonFrags : CollectFrags where
  hintLoReject lo n := decide (lo > n)
  hintHiReject hi n := decide (hi < n)
  isFull pos n := decide (pos = n)
  fullBeforePoll := true
  writeBeforeCount := true
  destFirst := true
  finishAfterProbe := true

/-- `try_from_iter` with the conditions read off -/
theorem tryFromIter_canon (S : Src σ) (n : Nat) (hint : Nat × Option Nat) (s0 : σ) :
    tryFromIter canonFrags S n hint s0 =
      if hintReject canonFrags hint n then (S.dropEv s0, .err) else
      match fillLoop true true S n s0 [] with
      | (tr, .panicked) => (tr, .panicked)
      | (tr, .short out s) => (tr ++ out.map .drop ++ S.dropEv s, .err)
      | (tr, .full out s) =>
        match S.step s with
        | .yield evs x s' =>
          (tr ++ evs ++ (if S.owns then [.drop x] else []) ++ out.map .drop ++ S.dropEv s', .err)
        | .done evs s' => (tr ++ evs ++ S.dropEv s', .ok out)
        | .panic evs s' => (tr ++ evs ++ out.map .drop ++ S.dropEv s', .panicked) := by
  have hlen := fillLoop_len true S n s0 []
  unfold tryFromIter
  by_cases hr : hintReject canonFrags hint n = true
  · simp only [hr, if_true]
  · simp only [hr, Bool.false_eq_true, if_false]
    simp only [canonFrags]
    rcases hf : fillLoop true true S n s0 [] with ⟨tr, ⟨out, s⟩ | ⟨out, s⟩ | _⟩
    · rw [hf] at hlen
      simp only [List.length_nil, Nat.zero_add] at hlen
      simp only [hlen, decide_true, Bool.not_true, Bool.false_eq_true, if_false, if_true]
      rfl
    · simp only [Bool.not_true, Bool.and_false, Bool.false_eq_true, if_false]
    · rfl

/-- **`try_from_iter`**: on every path (`Ok`, `Err` short / long / by hint, panic at any poll) what
    the source owned moves into the returned array; everything else is given away or dropped. -/
theorem tryFromIter_moves (hc : Contract S owned inv) (hown : S.owns = true) (n : Nat) (hint : Nat × Option Nat)
    (s0 : σ) (hi : inv s0) :
    Moves (tryFromIter canonFrags S n hint s0).1 (owned s0) (tryFromIter canonFrags S n hint s0).2.ids := by
  obtain ⟨hm, hinv⟩ := fillLoop_moves hc hown n s0 hi []
  rw [tryFromIter_canon]
  split
  · exact hc.moves_drop s0
  · split <;> rename_i heq <;> rw [heq] at hm hinv
    · exact hm
    · exact hm.append ((moves_drop _).frame_right _) |>.append (hc.moves_drop _)
    · rename_i tr out s
      have hy := (hc.step (hinv out s rfl)).1
      -- in trace order: the fill, the probe's step, (the surplus item dropped,) the builder torn down, the source dropped
      cases hs : S.step s with
      | yield evs x s' =>
        rw [hs] at hy
        simp only [Step.item, hown, if_true] at hy ⊢
        exact hm.append (hy.frame_left out) |>.append (((moves_drop [x]).frame_right _).frame_left out)
          |>.append ((moves_drop out).frame_right _) |>.append (hc.moves_drop s')
      | done evs s' =>
        rw [hs] at hy
        exact hm.append (hy.frame_left out) |>.append
          (by simpa [Res.ids, Step.item, Step.next] using (hc.moves_drop s').frame_left out)
      | panic evs s' =>
        rw [hs] at hy
        exact hm.append (hy.frame_left out) |>.append ((moves_drop out).frame_right _) |>.append (hc.moves_drop s')

/-- **`try_from_iter` ledger** over any contract-abiding source, any size hint (truthful or not):
    every id is accounted for exactly once on every path (`Ok`, `Err` short, `Err` long, `Err` by
    hint, panic at any poll), and no uninitialised slot is ever dropped or returned. -/
theorem tryFromIter_ledger {σ : Type} (S : Src σ) (owned : σ → List Id) (inv : σ → Prop)
    (hc : Contract S owned inv) (hown : S.owns = true) (n : Nat) (hint : Nat × Option Nat) (s0 : σ)
    (hi : inv s0) :
    (gives (tryFromIter canonFrags S n hint s0).1 ++ drops (tryFromIter canonFrags S n hint s0).1 ++
        (tryFromIter canonFrags S n hint s0).2.ids).Perm
      (owned s0 ++ takes (tryFromIter canonFrags S n hint s0).1) ∧
    uninitDrops (tryFromIter canonFrags S n hint s0).1 = 0 :=
  tryFromIter_moves hc hown n hint s0 hi

/-- `from_iter` moves what `try_from_iter` moves: `Err` only adds the length panic. -/
theorem fromIter_moves (hc : Contract S owned inv) (hown : S.owns = true) (n : Nat) (hint : Nat × Option Nat)
    (s0 : σ) (hi : inv s0) :
    Moves (fromIter canonFrags S n hint s0).1 (owned s0) (fromIter canonFrags S n hint s0).2.ids := by
  have h := tryFromIter_moves hc hown n hint s0 hi
  unfold fromIter
  split
  · rename_i heq; rw [heq] at h
    exact h.append (moves_quiet _ rfl rfl rfl rfl)
  · exact h

/-- **Fold loop** over a source whose items carry no ownership: what the source owned is given to the
    closure, dropped by the source's destructor (on a panic), or still owned by it. -/
theorem foldLoop_moves (hc : Contract S owned inv) (hown : S.owns = false) (k : Nat) (s : σ) (hi : inv s) :
    Moves (foldLoop S k s).1 (owned s) (if (foldLoop S k s).2.1 then owned (foldLoop S k s).2.2 else []) := by
  induction k generalizing s with
  | zero => exact Moves.refl _
  | succ k ih =>
    obtain ⟨hm, hi'⟩ := hc.step hi
    cases hs : S.step s <;> rw [hs] at hm hi' <;> simp only [foldLoop, hs]
    · simp only [Step.item, hown, Bool.false_eq_true, if_false] at hm
      exact hm.append (ih _ hi')
    · exact hm
    · exact hm.append (hc.moves_drop _)

def Yields (S : Src σ) : σ → List Id → σ → Prop
  | s, [], s' => s' = s
  | s, x :: items, s' => ∃ evs s₁, S.step s = .yield evs x s₁ ∧ Yields S s₁ items s'

theorem fillLoop_of_yields (wbc : Bool) {S : Src σ} {s s' : σ} {items : List Id} (h : Yields S s items s')
    (out : List Id) : (fillLoop wbc true S items.length s out).2 = .full (out ++ items) s' := by
  induction items generalizing s out with
  | nil => cases h; simp [fillLoop]
  | cons x t ih =>
    obtain ⟨evs, s₁, hs, ht⟩ := h
    simp only [List.length_cons, fillLoop, hs, ih ht, List.append_assoc, List.singleton_append]

theorem yields_of_fillLoop {wbc : Bool} {S : Src σ} {k : Nat} {s s' : σ} {out o : List Id}
    (h : (fillLoop wbc true S k s out).2 = .full o s') :
    ∃ items, items.length = k ∧ Yields S s items s' ∧ o = out ++ items := by
  induction k generalizing s out with
  | zero =>
    simp only [fillLoop, if_true] at h
    cases h; exact ⟨[], rfl, rfl, (List.append_nil _).symm⟩
  | succ k ih =>
    simp only [fillLoop] at h
    split at h
    · obtain ⟨items, hl, hy, ho⟩ := ih h
      exact ⟨_ :: items, congrArg (· + 1) hl, ⟨_, _, ‹_›, hy⟩, by rw [ho, List.append_assoc]; rfl⟩
    · cases h
    · cases h

/-- a source replaying a script: `mk l j` yields `x` exactly when `l` starts with `inj x` -/
theorem yields_scripted {α : Type} (S : Src σ) (mk : List α → Nat → σ) (inj : Id → α)
    (hy : ∀ x t j, ∃ evs, S.step (mk (inj x :: t) j) = .yield evs x (mk t (j + 1)))
    (hn : ∀ l j evs x s', S.step (mk l j) = .yield evs x s' → ∃ t, l = inj x :: t)
    (rest : List α) (j : Nat) (items : List Id) (s : σ) :
    Yields S (mk rest j) items s ↔
      rest.take items.length = items.map inj ∧ s = mk (rest.drop items.length) (j + items.length) := by
  induction items generalizing rest j with
  | nil => exact ⟨fun h => ⟨rfl, h⟩, fun h => h.2⟩
  | cons x items ih =>
    constructor
    · rintro ⟨evs, s₁, hs, hys⟩
      obtain ⟨t, rfl⟩ := hn _ _ _ _ _ hs
      obtain ⟨evs', hs'⟩ := hy x t j
      rw [hs] at hs'; cases hs'
      obtain ⟨ht, he⟩ := (ih t (j + 1)).mp hys
      exact ⟨congrArg (inj x :: ·) ht, by rw [he, List.length_cons, Nat.add_right_comm, Nat.add_assoc]; rfl⟩
    · rintro ⟨ht, he⟩
      cases rest with
      | nil => cases ht
      | cons a t =>
        cases List.cons.inj ht |>.1
        obtain ⟨evs, hs⟩ := hy x t j
        exact ⟨evs, _, hs, (ih t (j + 1)).mpr ⟨(List.cons.inj ht).2,
          by rw [he, List.length_cons, Nat.add_right_comm, Nat.add_assoc]; rfl⟩⟩

/-- **`Ok` only for exactly `n` items**: `try_from_iter` returns `arr` iff the hint does not reject,
    the source yields the `n` items of `arr`, and then says it has ended. -/
theorem tryFromIter_ok_iff (S : Src σ) (n : Nat) (hint : Nat × Option Nat) (s0 : σ) (arr : List Id) :
    (tryFromIter canonFrags S n hint s0).2 = .ok arr ↔
      hintReject canonFrags hint n = false ∧ arr.length = n ∧
        ∃ s evs s', Yields S s0 arr s ∧ S.step s = .done evs s' := by
  rw [tryFromIter_canon]
  split
  · rename_i hr
    exact ⟨fun h => (by cases h), fun h => by rw [hr] at h; cases h.1⟩
  · rename_i hr
    refine ⟨fun h => ?_, fun ⟨_, hl, s, evs, s', hy, hd⟩ => ?_⟩
    · split at h
      · cases h
      · cases h
      · rename_i tr out s heq
        obtain ⟨items, hl, hy, ho⟩ := yields_of_fillLoop (congrArg Prod.snd heq)
        cases hs : S.step s with
        | yield | panic => rw [hs] at h; cases h
        | done evs s' =>
          rw [hs] at h
          cases h
          subst ho
          exact ⟨by simpa using hr, hl, s, evs, s', hy, hs⟩
    · -- a run of `n` yields from `s0` is the run the fill loop made
      have hf := fillLoop_of_yields true hy []
      rw [hl] at hf
      cases hfl : fillLoop true true S n s0 [] with
      | mk tr r =>
        rw [hfl] at hf
        cases hf
        simp only [hd, List.nil_append]

/-! A property of traces graded by a number of polls: `P 0` holds of `[]`, of every destructor run and of every run
    of drops, `P 1` of the events of one step, `++` adds the grades and a grade may be raised.  Then the trace of a
    loop that polls at most `k` times has `P k`.  A property that is simply kept by `++` (`gives t = []`) ignores
    the grade. -/
section
variable {P : Nat → List Ev → Prop} (h0 : P 0 []) (happ : ∀ i j a b, P i a → P j b → P (i + j) (a ++ b))
  (hmono : ∀ i j t, i ≤ j → P i t → P j t) (hstep : ∀ s, P 1 (S.step s).evs) (hdrop : ∀ s, P 0 (S.dropEv s))
include h0 happ hmono hstep hdrop

theorem foldLoop_trace (k : Nat) (s : σ) : P k (foldLoop S k s).1 := by
  induction k generalizing s with
  | zero => exact h0
  | succ k ih =>
    have := hstep s
    cases hs : S.step s <;> rw [hs] at this <;> simp only [foldLoop, hs]
    · exact Nat.add_comm 1 k ▸ happ _ _ _ _ this (ih _)
    · exact hmono _ _ _ (Nat.le_add_left 1 k) this
    · exact hmono _ _ _ (Nat.le_add_left 1 k) (happ _ _ _ _ this (hdrop _))

variable (hd : ∀ l : List Id, P 0 (l.map .drop))
include hd

theorem fillLoop_trace (k : Nat) (s : σ) (out : List Id) : P k (fillLoop true true S k s out).1 := by
  induction k generalizing s out with
  | zero => exact h0
  | succ k ih =>
    have := hstep s
    cases hs : S.step s <;> rw [hs] at this <;> simp only [fillLoop, hs, builderDrop_true]
    · exact Nat.add_comm 1 k ▸ happ _ _ _ _ this (ih _ _)
    · exact hmono _ _ _ (Nat.le_add_left 1 k) this
    · exact hmono _ _ _ (Nat.le_add_left 1 k) (happ _ _ _ _ (happ _ _ _ _ this (hd out)) (hdrop _))

/-- `try_from_iter` polls at most `n` times to fill and once more to probe -/
theorem tryFromIter_trace (n : Nat) (hint : Nat × Option Nat) (s0 : σ) :
    P (n + 1) (tryFromIter canonFrags S n hint s0).1 := by
  have hf := fillLoop_trace h0 happ hmono hstep hdrop hd n s0 []
  have up : ∀ {t}, P n t → P (n + 1) t := hmono _ _ _ (Nat.le_succ n)
  -- what follows the fill or the probe: drops and a destructor run, grade 0
  have tear : ∀ {i t} (l : List Id) (s), P i t → P i (t ++ l.map .drop ++ S.dropEv s) := fun l s h =>
    happ _ _ _ _ (happ _ _ _ _ h (hd l)) (hdrop s)
  rw [tryFromIter_canon]
  split
  · exact hmono _ _ _ (Nat.zero_le _) (hdrop s0)
  · split <;> rename_i heq <;> rw [heq] at hf
    · exact up hf
    · exact up (tear _ _ hf)
    · rename_i s
      have hp := happ _ _ _ _ hf (hstep s)
      split <;> rename_i hs <;> rw [hs] at hp
      · refine tear _ _ (happ _ 0 _ _ hp ?_)
        split
        · exact hd [_]
        · exact h0
      · exact happ _ 0 _ _ hp (hdrop _)
      · exact tear _ _ hp

end
end

theorem drop_of_getElem? {l : List Id} {i : Nat} {x : Id} (h : l[i]? = some x) :
    l.drop i = x :: l.drop (i + 1) := by
  obtain ⟨hlt, hget⟩ := List.getElem?_eq_some_iff.mp h
  rw [List.drop_eq_getElem_cons hlt, hget]

theorem drop_of_getElem?_none {l : List Id} {i : Nat} (h : l[i]? = none) : l.drop i = [] :=
  List.drop_eq_nil_of_le (List.getElem?_eq_none_iff.mp h)

theorem genSrc_contract (f : Nat → Option Id) : Contract (genSrc f) (fun _ => []) (fun _ => True) :=
  .of_step (fun s _ => by
    simp only [genSrc]
    cases f s with
    | some y => exact ⟨moves_take s y, trivial⟩
    | none => exact ⟨moves_panic s [], trivial⟩)
    (fun _ => rfl)

def Consumer.owned (c : Consumer) : List Id := c.slots.drop c.pos
def Consumer.Sync (c : Consumer) : Prop := c.idx = c.pos

def Side.ownedOf (sd : Side) (c : Consumer) : List Id :=
  match sd with
  | .borrowed => []
  | .manual => []
  | _ => c.owned

/-- a side under which a panicking closure loses nothing: a consumer must store `pos + 1` (evaluated
    on in-sync positions) before the call; a `ManuallyDrop` side never is (it abandons the unread
    elements on a panic); an iterator side always is (it owns, or borrows, exactly what it has not yielded) -/
def Side.Good : Side → Prop
  | .consumer pn adv => adv = true ∧ ∀ p, pn p p = p + 1
  | .manual => False
  | _ => True

/-- every destructor in the model drops what its owner holds, in order, and does nothing else -/
theorem side_dropEv (sd : Side) (c : Consumer) : sd.dropEv c = (sd.ownedOf c).map .drop := by
  cases sd <;> rfl

theorem gives_arg (o : Bool) (i x : Nat) : gives [arg o i x] = if o then [x] else [] := by
  cases o <;> simp [arg, gives]

theorem count_ite_single (o : Bool) (x a : Id) :
    List.count a (if o = true then [x] else []) = if o = true then List.count a [x] else 0 := by
  cases o <;> simp

def Zip2.owned (sa sb : Side) (z : Zip2) : List Id := sb.ownedOf z.b ++ sa.ownedOf z.a
def Zip2.Sync (z : Zip2) : Prop :=
  z.a.Sync ∧ z.b.Sync ∧ z.a.pos = z.b.pos ∧ z.a.slots.length = z.b.slots.length

theorem side_after_idx (sd : Side) (c : Consumer) (q : Nat) (ok : Bool) :
    (sd.after c q ok).idx = c.idx + 1 ∧ (sd.after c q ok).slots = c.slots := by
  cases sd <;> exact ⟨rfl, rfl⟩

/-- `q` is the other consumer's position as `zip` passes it; it only matters that it equals this side's -/
theorem Side.moves_read (sd : Side) (hg : sd.Good) (c : Consumer) (hs : c.Sync) (ok : Bool) {x : Id}
    (hx : c.slots[c.idx]? = some x) (q : Nat) (hq : q = c.pos) :
    Moves [arg sd.owns c.idx x] (sd.ownedOf c) (sd.ownedOf (sd.after c q ok)) ∧ (sd.after c q ok).Sync ∧
      (sd.after c q ok).pos = c.pos + 1 := by
  suffices h : (sd.after c q ok).Sync ∧
      sd.ownedOf c = (if sd.owns then [x] else []) ++ sd.ownedOf (sd.after c q ok) ∧
      (sd.after c q ok).pos = c.pos + 1 by
    rw [h.2.1]; exact ⟨(moves_arg _ _ _).frame_right _, h.1, h.2.2⟩
  subst hq
  unfold Consumer.Sync at hs
  rw [hs] at hx
  cases sd with
  | consumer pn adv =>
    obtain ⟨rfl, hp⟩ := hg
    -- the store precedes the call, so it happens whatever `ok` is, and stores `pn pos pos = pos + 1`
    have ha : Side.after (.consumer pn true) c c.pos ok = { c with idx := c.idx + 1, pos := c.pos + 1 } := by
      simp only [Side.after, Bool.or_true, if_true, hp]
    rw [ha]
    exact ⟨congrArg (· + 1) hs, drop_of_getElem? hx, rfl⟩
  | owned =>
    refine ⟨rfl, ?_, congrArg (· + 1) hs⟩
    show c.slots.drop c.pos = x :: c.slots.drop (c.idx + 1)
    rw [hs]; exact drop_of_getElem? hx
  | borrowed => exact ⟨rfl, rfl, congrArg (· + 1) hs⟩
  | manual => exact hg.elim

theorem mapSrc_contract (sd : Side) (hg : sd.Good) (f : Nat → Option Id) :
    Contract (mapSrc sd f) sd.ownedOf Consumer.Sync :=
  .of_step (fun c hi => by
    simp only [mapSrc]
    cases hx : c.slots[c.idx]? with
    | none => exact ⟨Moves.refl _, hi⟩
    | some x =>
      cases f c.idx with
      | some y =>
        obtain ⟨hm, hs, -⟩ := sd.moves_read hg c hi true hx c.pos rfl
        exact ⟨hm.append ((moves_take _ y).frame_right _), hs⟩
      | none =>
        obtain ⟨hm, hs, -⟩ := sd.moves_read hg c hi false hx c.pos rfl
        exact ⟨hm.append (moves_panic _ _), hs⟩)
    (side_dropEv sd)

theorem foldSrc_contract (sd : Side) (hg : sd.Good) (f : Nat → Bool) :
    Contract (foldSrc sd f) sd.ownedOf Consumer.Sync :=
  .of_step (fun c hi => by
    simp only [foldSrc]
    cases hx : c.slots[c.idx]? with
    | none => exact ⟨Moves.refl _, hi⟩
    | some x =>
      cases f c.idx with
      | true =>
        obtain ⟨hm, hs, -⟩ := sd.moves_read hg c hi true hx c.pos rfl
        exact ⟨hm, hs⟩
      | false =>
        obtain ⟨hm, hs, -⟩ := sd.moves_read hg c hi false hx c.pos rfl
        exact ⟨hm.append (moves_panic _ _), hs⟩)
    (side_dropEv sd)

/-- the destructor is `b`'s followed by `a`'s, and `Zip2.owned` lists them in that order -/
theorem zipSrc_dropEv (sa sb : Side) (f : Nat → Option Id) (z : Zip2) :
    (zipSrc sa sb f).dropEv z = (Zip2.owned sa sb z).map .drop := by
  rw [Zip2.owned, List.map_append, ← side_dropEv, ← side_dropEv]; rfl

theorem zipSrc_contract (sa sb : Side) (f : Nat → Option Id) (ha : sa.Good) (hb : sb.Good) :
    Contract (zipSrc sa sb f) (Zip2.owned sa sb) Zip2.Sync :=
  .of_step (fun z ⟨ia, ib, iab, ilen⟩ => by
    simp only [zipSrc]
    cases hx : z.a.slots[z.a.idx]? with
    | none => exact ⟨Moves.refl _, ia, ib, iab, ilen⟩
    | some x =>
      cases hy : z.b.slots[z.b.idx]? with
      | none =>
        -- `b` ran out first: impossible for equal lengths at equal indices
        have h1 := (List.getElem?_eq_some_iff.mp hx).1
        have h2 := List.getElem?_eq_none_iff.mp hy
        unfold Consumer.Sync at ia ib
        omega
      | some y =>
        -- the closure's result decides `ok`; either way both elements are read and passed
        have key : ∀ ok, Moves [arg sa.owns z.a.idx x, arg sb.owns z.a.idx y] (Zip2.owned sa sb z)
            (Zip2.owned sa sb ⟨sa.after z.a z.b.pos ok, sb.after z.b z.a.pos ok⟩) ∧
            Zip2.Sync ⟨sa.after z.a z.b.pos ok, sb.after z.b z.a.pos ok⟩ := fun ok => by
          obtain ⟨ma, sa', pa⟩ := sa.moves_read ha z.a ia ok hx z.b.pos iab.symm
          obtain ⟨mb, sb', pb⟩ := sb.moves_read hb z.b ib ok hy z.a.pos iab
          rw [show z.b.idx = z.a.idx from ib.trans (iab.symm.trans ia.symm)] at mb
          exact ⟨(ma.frame_left _).append (mb.frame_right _), sa', sb', by rw [pa, pb, iab],
            by rw [(side_after_idx ..).2, (side_after_idx ..).2]; exact ilen⟩
        cases f z.a.idx with
        | some r => exact ⟨(key true).1.append ((moves_take _ r).frame_right _), (key true).2⟩
        | none => exact ⟨(key false).1.append (moves_panic _ _), (key false).2⟩)
    (zipSrc_dropEv sa sb f)

theorem iterSrc_contract : Contract iterSrc Consumer.owned Consumer.Sync :=
  .of_step (fun c hi => by
    simp only [iterSrc]
    cases hx : c.slots[c.idx]? with
    | none => exact ⟨Moves.refl _, hi⟩
    | some x =>
      unfold Consumer.Sync at hi
      rw [hi] at hx
      simp only [Consumer.owned, drop_of_getElem? hx, hi]
      exact ⟨Moves.refl _, rfl⟩)
    (fun _ => rfl)

theorem scriptSrc_contract : Contract scriptSrc (fun _ => []) (fun _ => True) :=
  .of_step (fun s _ => by
    simp only [scriptSrc]
    split
    · exact ⟨⟨.refl _, rfl⟩, trivial⟩
    · split <;> exact ⟨⟨.refl _, rfl⟩, trivial⟩)
    (fun _ => rfl)

end GA.Own
