import GA.Model.Seq
/-!
What the block primitives of `GA.Seq` do on the shapes of input that the operations of src/sequence.rs give them, and
the two permutation facts behind "every element exactly once".  Both the fragment models (`GA.Props.C09`) and the
interpreted bodies (`GA.Bridge.SeqBody`) are read off these.
-/
namespace GA.Seq

theorem uninit_length (n : Nat) : (uninit n).length = n := List.length_replicate

theorem uninit_add (a b : Nat) : uninit (a + b) = uninit a ++ uninit b := List.replicate_append_replicate.symm

theorem writeAt_gap (p s : Buf) (ys : List Nat) : writeAt (p ++ uninit ys.length ++ s) p.length ys = some (p ++ ys.map some ++ s) := by
  have hl : p.length + ys.length ≤ (p ++ uninit ys.length ++ s).length := by
    simp only [List.length_append, uninit_length, Nat.le_add_right]
  have h1 : (p ++ uninit ys.length ++ s).take p.length = p := by rw [List.append_assoc, List.take_left]
  have h2 : (p ++ uninit ys.length ++ s).drop (p.length + ys.length) = s :=
    List.drop_left' (by simp only [List.length_append, uninit_length])
  rw [writeAt, if_pos hl, h1, h2]

theorem writeAt_uninit (ys : List Nat) (m t : Nat) (h : t = ys.length + m) :
    writeAt (uninit t) 0 ys = some (ys.map some ++ uninit m) := by
  subst h
  simpa only [uninit_add, List.nil_append, List.length_nil] using writeAt_gap [] (uninit m) ys

theorem writeAt_after (p ys : List Nat) (m off : Nat) (hm : ys.length = m) (ho : off = p.length) :
    writeAt (p.map some ++ uninit m) off ys = some ((p ++ ys).map some) := by
  subst hm ho
  simpa only [List.append_nil, List.length_map, List.map_append] using writeAt_gap (p.map some) [] ys

theorem assumeInit_cons_some (x : Nat) (b : Buf) : assumeInit (some x :: b) = (assumeInit b).map (x :: ·) := by
  unfold assumeInit
  simp only [List.mapM_cons, id]
  cases List.mapM id b <;> rfl

theorem assumeInit_map_append (a : List Nat) (b : Buf) : assumeInit (a.map some ++ b) = (assumeInit b).map (a ++ ·) := by
  induction a with
  | nil => cases h : assumeInit b <;> simp only [List.map_nil, List.nil_append, h, Option.map_none, Option.map_some]
  | cons x t ih =>
    rw [List.map_cons, List.cons_append, assumeInit_cons_some, ih]
    cases assumeInit b <;> rfl

theorem assumeInit_map_some (l : List Nat) : assumeInit (l.map some) = some l := by
  rw [← List.append_nil (l.map some), assumeInit_map_append]; exact congrArg some (List.append_nil l)

theorem readAt_take (xs : List Nat) (l : Nat) (h : l ≤ xs.length) : readAt xs 0 l = some (xs.take l) := by
  simp only [readAt, Nat.zero_add, h, if_true, List.drop_zero]

theorem readAt_drop (xs : List Nat) (f l : Nat) (h : f + l = xs.length) : readAt xs f l = some (xs.drop f) := by
  rw [readAt, if_pos (Nat.le_of_eq h),
    List.take_of_length_le (by rw [List.length_drop, ← h, Nat.add_sub_cancel_left]; exact Nat.le_refl l)]

theorem readAt_left (a b : List Nat) (l : Nat) (h : l = a.length) : readAt (a ++ b) 0 l = some a := by
  rw [h, readAt_take _ _ (by rw [List.length_append]; exact Nat.le_add_right _ _), List.take_left]

theorem readAt_right (a b : List Nat) (l : Nat) (h : l = b.length) : readAt (a ++ b) a.length l = some b := by
  rw [h, readAt_drop _ _ _ List.length_append.symm, List.drop_left]

theorem readAt_one (xs : List Nat) (i : Nat) (h : i < xs.length) : readAt xs i 1 = some [xs[i]] := by
  rw [readAt, if_pos (Nat.succ_le_of_lt h), List.drop_eq_getElem_cons h]; rfl

/-- `remove`'s `ptr::copy` closes the gap left by element `i`; the last slot keeps its stale bits -/
theorem copyWithin_succ (xs : List Nat) (i : Nat) (h : i < xs.length) :
    copyWithin xs (i + 1) i (xs.length - i - 1) = some (xs.eraseIdx i ++ xs.drop (xs.length - 1)) := by
  have e1 : i + 1 + (xs.length - i - 1) = xs.length := by rw [Nat.sub_sub]; exact Nat.add_sub_cancel' h
  have e2 : i + (xs.length - i - 1) = xs.length - 1 := by
    rw [Nat.sub_right_comm]; exact Nat.add_sub_cancel' (Nat.le_sub_one_of_lt h)
  rw [copyWithin, if_pos ⟨Nat.le_of_eq e1, e2 ▸ Nat.sub_le ..⟩, e2, List.eraseIdx_eq_take_drop_succ,
    List.take_of_length_le (l := xs.drop (i + 1)) (by rw [List.length_drop, Nat.sub_sub]; exact Nat.le_refl _)]

theorem swapAt_of_lt (xs : List Nat) (a b : Nat) (ha : a < xs.length) (hb : b < xs.length) :
    swapAt xs a b = some ((xs.set a xs[b]).set b xs[a]) := by
  simp only [swapAt, List.getElem?_eq_getElem ha, List.getElem?_eq_getElem hb]

theorem eraseIdx_perm (xs : List Nat) (i : Nat) (h : i < xs.length) : (xs[i] :: xs.eraseIdx i).Perm xs := by
  rw [List.eraseIdx_eq_take_drop_succ]
  conv => rhs; rw [← List.take_append_drop i xs, List.drop_eq_getElem_cons h]
  exact List.perm_middle.symm

/-- what `swap_remove` hands out (element `i`, and the array with its last element moved into slot `i` and
    cut by one) is the array swapped at `i` and the last slot, read last slot first (`List.set_set_perm`) -/
theorem swap_perm (xs : List Nat) (i : Nat) (h : i < xs.length) :
    (xs[i] :: (xs.set i (xs[xs.length - 1]'(by omega))).take (xs.length - 1)).Perm xs := by
  have h0 := Nat.zero_lt_of_lt h
  have hl : xs.length - 1 < xs.length := Nat.sub_one_lt (Nat.ne_of_gt h0)
  have hp := List.set_set_perm h hl
  rw [List.set_eq_take_append_cons_drop, if_pos (by rw [List.length_set]; exact hl),
    List.drop_of_length_le (by rw [List.length_set, Nat.sub_add_cancel h0]; exact Nat.le_refl _)] at hp
  exact (List.perm_append_singleton _ _).symm.trans hp

end GA.Seq
