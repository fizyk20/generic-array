import GA.Model.MemBody
import GA.Lemmas.Attr
namespace GA.MemBody

attribute [mem_body] run exec step LX.eval BX.eval St.get St.set St.scopeDrops lookup lookupAll
  runViews vexec vstep lookupP lookupV lookupVs noAlias View.disjoint
  Option.bind_eq_bind Option.bind_some decide_true decide_false
  Bool.not_true Bool.not_false Bool.and_true Bool.true_and Bool.and_false Bool.false_and Bool.or_true Bool.true_or
  Bool.or_false Bool.false_or Bool.and_self Bool.false_eq_true List.all_cons List.all_nil
  Nat.add_zero Nat.zero_add Nat.le_refl Nat.zero_le Nat.succ_ne_self List.append_nil List.nil_append

end GA.MemBody
